import HotstuffModel.Model.Bytes
/-!
Lemmas about little-endian integers and the reader monad `Dec`, and the two forms in which facts about
decoders are stated and composed along `>>=`: `Dec.Sat` (what a decoder does on every input) and
`Dec.Reads` (what it does on an input that starts with an encoding).  The `Reads` forms of `vec`,
`byteVec` and `option` speak of the encoders and stand in Proofs/Bincode.lean.
-/
namespace HS.Wire

@[simp] theorem leN_length (k n : Nat) : (leN k n).length = k := by
  induction k generalizing n with
  | zero => rfl
  | succ k ih => simp [leN, ih]

@[simp] theorem le64_length (n : Nat) : (le64 n).length = 8 := leN_length 8 n
@[simp] theorem le32_length (n : Nat) : (le32 n).length = 4 := leN_length 4 n

theorem unle_leN (k n : Nat) : unle (leN k n) = n % 256 ^ k := by
  induction k generalizing n with
  | zero => simp [leN, unle, Nat.mod_one]
  | succ k ih =>
    simp only [leN, unle, ih]
    rw [Nat.pow_succ, Nat.mul_comm (256 ^ k) 256, Nat.mod_mul]
    simp [UInt8.toNat_ofNat']

theorem unle_le64 (n : Nat) (h : n < 2 ^ 64) : unle (le64 n) = n :=
  (unle_leN 8 n).trans (Nat.mod_eq_of_lt h)

theorem unle_le32 (n : Nat) (h : n < 2 ^ 32) : unle (le32 n) = n :=
  (unle_leN 4 n).trans (Nat.mod_eq_of_lt h)

theorem le64_inj (a b : Nat) (ha : a < 2 ^ 64) (hb : b < 2 ^ 64) (h : le64 a = le64 b) : a = b := by
  rw [← unle_le64 a ha, ← unle_le64 b hb, h]

theorem unle_lt (bs : List UInt8) : unle bs < 256 ^ bs.length := by
  induction bs with
  | nil => simp [unle]
  | cons b bs ih =>
    have hb := b.toNat_lt
    simp only [unle, List.length_cons, Nat.pow_succ]
    omega

@[simp] theorem Res.bind_ok {α β : Type} (a : α) (f : α → Res β) : (Res.ok a >>= f) = f a := rfl
@[simp] theorem Res.bind_err {α β : Type} (f : α → Res β) : ((Res.err : Res α) >>= f) = Res.err := rfl
@[simp] theorem Res.bind_panic {α β : Type} (f : α → Res β) : ((Res.panic : Res α) >>= f) = Res.panic := rfl
@[simp] theorem Res.pure_eq {α : Type} (a : α) : (pure a : Res α) = Res.ok a := rfl

/-- `r` is a value satisfying `P`, or an error, or — only if `Q` holds — a panic. -/
def Res.Sat {α : Type} (r : Res α) (P : α → Prop) (Q : Prop) : Prop :=
  match r with
  | .ok a => P a
  | .err => True
  | .panic => Q

namespace Res.Sat
variable {α : Type} {r : Res α} {P P' : α → Prop} {Q : Prop}

theorem of_ok {a : α} (h : r.Sat P Q) (e : r = .ok a) : P a := by subst e; exact h

theorem ne_panic (h : r.Sat P Q) (hq : ¬ Q) : r ≠ .panic := fun e => hq (by subst e; exact h)

theorem mono (h : r.Sat P Q) (hp : ∀ a, P a → P' a) : r.Sat P' Q := by
  cases r with
  | ok a => exact hp a h
  | err => trivial
  | panic => exact h

end Res.Sat

namespace Dec

@[simp] theorem run_pure {α : Type} (a : α) (bs : List UInt8) : (Pure.pure a : Dec α).run bs = .ok (a, bs) := rfl

theorem run_bind {α β : Type} (d : Dec α) (f : α → Dec β) (bs : List UInt8) :
    (d >>= f).run bs = match d.run bs with
      | .ok (a, r) => (f a).run r
      | .err => .err
      | .panic => .panic := rfl

@[simp] theorem run_fail {α : Type} (bs : List UInt8) : (fail : Dec α).run bs = .err := rfl

@[simp] theorem run_lift_ok {α : Type} (a : α) (bs : List UInt8) : (lift (.ok a)).run bs = .ok (a, bs) := rfl

/-- On every input `d` returns a value satisfying `P`, or an error, or — only if `Q` holds — panics.
Both "never panics" (`Q = False`) and "whatever is returned satisfies `P`" are read off with
`Res.Sat.ne_panic` and `Res.Sat.of_ok`. -/
def Sat {α : Type} (d : Dec α) (P : α → Prop) (Q : Prop) : Prop := ∀ bs, (d.run bs).Sat (fun p => P p.1) Q

namespace Sat
variable {α β : Type} {d : Dec α} {P P' : α → Prop} {Q : Prop}

theorem pure {a : α} (h : P a) : (Pure.pure a : Dec α).Sat P Q := fun _ => h

theorem bind {f : α → Dec β} {R : β → Prop} (hd : d.Sat P Q) (hf : ∀ a, P a → (f a).Sat R Q) :
    (d >>= f).Sat R Q := by
  intro bs
  have h := hd bs
  rw [run_bind]
  revert h
  cases d.run bs with
  | ok p => obtain ⟨a, r⟩ := p; exact fun h => hf a h r
  | err => exact fun _ => trivial
  | panic => exact id

theorem mono (h : d.Sat P Q) (hp : ∀ x, P x → P' x) : d.Sat P' Q := fun bs => (h bs).mono fun p => hp p.1

theorem fail : (Dec.fail : Dec α).Sat P Q := fun _ => trivial

theorem lift {r : Res α} (h : r.Sat P Q) : (Dec.lift r).Sat P Q := fun _ => by cases r <;> exact h

theorem take (n : Nat) : (Dec.take n).Sat (fun s => s.length = n) Q := by
  intro bs
  simp only [Dec.take]
  split
  · rename_i fits
    exact List.length_take_of_le fits
  · trivial

theorem u8 : Dec.u8.Sat (fun _ => True) Q := fun bs => by cases bs <;> trivial

/-- The shape of `u64` and `u32`: `k` bytes read as a little-endian number. -/
theorem unle (k : Nat) : (Dec.take k >>= fun b => Pure.pure (unle b)).Sat (fun n => n < 256 ^ k) Q :=
  .bind (.take k) fun b hb => .pure (hb ▸ unle_lt b)

theorem u64 : Dec.u64.Sat (fun n => n < 2 ^ 64) Q := .unle 8
theorem u32 : Dec.u32.Sat (fun n => n < 2 ^ 32) Q := .unle 4

theorem many (hd : d.Sat P Q) (n : Nat) : (Dec.many d n).Sat (fun xs => xs.length = n ∧ ∀ x ∈ xs, P x) Q := by
  induction n with
  | zero => exact .pure ⟨rfl, nofun⟩
  | succ n ih =>
    exact .bind hd fun a ha => .bind ih fun xs hxs =>
      .pure ⟨congrArg Nat.succ hxs.1, List.forall_mem_cons.2 ⟨ha, hxs.2⟩⟩

theorem vec (hd : d.Sat P Q) : (Dec.vec d).Sat (fun xs => xs.length < 2 ^ 64 ∧ ∀ x ∈ xs, P x) Q :=
  .bind .u64 fun n hn => (Sat.many hd n).mono fun _ h => ⟨h.1 ▸ hn, h.2⟩

theorem byteVec : Dec.byteVec.Sat (fun s => s.length < 2 ^ 64) Q :=
  .bind .u64 fun n hn => (Sat.take n).mono fun _ h => h ▸ hn

theorem ite {p : Prop} [Decidable p] {a b : Dec α} (ha : a.Sat P Q) (hb : b.Sat P Q) :
    (if p then a else b).Sat P Q := by
  split
  · exact ha
  · exact hb

theorem option (hd : d.Sat P Q) : (Dec.option d).Sat (fun o => ∀ x, o = some x → P x) Q :=
  .bind .u8 fun _ _ => .ite (.pure nofun)
    (.ite (.bind hd fun _ ha => .pure fun _ h => Option.some.inj h ▸ ha) .fail)

end Sat

/-- `d` reads `x` off the front of every input that starts with `s`, and leaves what follows `s`. -/
def Reads {α : Type} (d : Dec α) (s : List UInt8) (x : α) : Prop := ∀ rest, d.run (s ++ rest) = .ok (x, rest)

namespace Reads
variable {α β : Type} {d : Dec α} {s t : List UInt8} {x : α}

theorem of_eq {s' : List UInt8} (e : s' = s) (h : d.Reads s' x) : d.Reads s x := e ▸ h

theorem run (h : d.Reads s x) : d.run s = .ok (x, []) := by simpa using h []

theorem pure (a : α) : (Pure.pure a : Dec α).Reads [] a := fun _ => rfl

theorem bind {f : α → Dec β} {y : β} (hd : d.Reads s x) (hf : (f x).Reads t y) : (d >>= f).Reads (s ++ t) y :=
  fun rest => by rw [List.append_assoc, run_bind, hd]; exact hf rest

theorem lift {r : Res α} (h : r = .ok x) : (Dec.lift r).Reads [] x := fun _ => by subst h; rfl

theorem take {n : Nat} (h : s.length = n) : (Dec.take n).Reads s s := fun rest => by
  simp only [Dec.take, List.length_append]
  rw [if_pos (by omega), List.take_left' h, List.drop_left' h]

theorem u8 {b : UInt8} : Dec.u8.Reads [b] b := fun _ => rfl

theorem unle {k n : Nat} (h : n < 256 ^ k) : (Dec.take k >>= fun b => Pure.pure (unle b)).Reads (leN k n) n :=
  fun rest => by
    rw [run_bind, Reads.take (leN_length k n) rest]
    show Res.ok (HS.Wire.unle (leN k n), rest) = _
    rw [unle_leN, Nat.mod_eq_of_lt h]

theorem u64 {n : Nat} (h : n < 2 ^ 64) : Dec.u64.Reads (le64 n) n := .unle h
theorem u32 {n : Nat} (h : n < 2 ^ 32) : Dec.u32.Reads (le32 n) n := .unle h

theorem many {e : α → List UInt8} {xs : List α} (h : ∀ x ∈ xs, d.Reads (e x) x) :
    (Dec.many d xs.length).Reads (xs.map e).flatten xs := by
  induction xs with
  | nil => exact .pure []
  | cons x xs ih =>
    rw [List.forall_mem_cons] at h
    exact .of_eq (by simp) (.bind h.1 (.bind (ih h.2) (.pure _)))

end Reads
end Dec
end HS.Wire
