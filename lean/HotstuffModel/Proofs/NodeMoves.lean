import HotstuffModel.Model.Node
import HotstuffModel.Proofs.Lists
/-!
A micro-step of the node model, taken apart.

`Node.step` runs one handler of core.rs / proposer.rs / helper.rs to its end.  On the way the
handler makes a few primitive *moves*: it assigns, it appends to a queue, it emits, each time in a
situation its own code has just established (a guard held, a `verify` succeeded, the aggregator
returned a certificate, the parent was in the store).  `Move` lists these moves, each with facts
that hold where the code makes it (those the invariants need, not every guard on the way).
`CertMove` is the handling of a certificate, kept whole; `Delivery` is the one place where `commit`
emits.  `step_steps` shows that every micro-step is a sequence of moves around at most one
delivery.  Nothing here needs an invariant; every invariant and every two-state fact about `step`
is then proved move by move.

The `Option Block` is a ghost register: the block the handler is processing (`handle_proposal`,
or `process_block` on a block taken from the loop-back channel).
-/
namespace HS
open Node

@[simp] theorem emit_round (s : Node) (o : Out) : (s.emit o).round = s.round := rfl
@[simp] theorem emit_lastVoted (s : Node) (o : Out) : (s.emit o).lastVoted = s.lastVoted := rfl
@[simp] theorem emit_lastCommitted (s : Node) (o : Out) : (s.emit o).lastCommitted = s.lastCommitted := rfl
@[simp] theorem emit_highQC (s : Node) (o : Out) : (s.emit o).highQC = s.highQC := rfl
@[simp] theorem emit_agg (s : Node) (o : Out) : (s.emit o).agg = s.agg := rfl
@[simp] theorem emit_store (s : Node) (o : Out) : (s.emit o).store = s.store := rfl
@[simp] theorem emit_avail (s : Node) (o : Out) : (s.emit o).avail = s.avail := rfl
@[simp] theorem emit_loopQ (s : Node) (o : Out) : (s.emit o).loopQ = s.loopQ := rfl
@[simp] theorem emit_propQ (s : Node) (o : Out) : (s.emit o).propQ = s.propQ := rfl
@[simp] theorem emit_buffer (s : Node) (o : Out) : (s.emit o).buffer = s.buffer := rfl
@[simp] theorem emit_syncPending (s : Node) (o : Out) : (s.emit o).syncPending = s.syncPending := rfl
@[simp] theorem emit_syncRequests (s : Node) (o : Out) : (s.emit o).syncRequests = s.syncRequests := rfl
@[simp] theorem emit_payPending (s : Node) (o : Out) : (s.emit o).payPending = s.payPending := rfl
@[simp] theorem emit_panic (s : Node) (o : Out) : (s.emit o).panic = s.panic := rfl
@[simp] theorem emit_name (s : Node) (o : Out) : (s.emit o).name = s.name := rfl
@[simp] theorem emit_hist (s : Node) (o : Out) : (s.emit o).hist = o :: s.hist := rfl

@[simp] theorem ownBlock_qc (n r : Nat) (q : QC) (t : Option TC) (p : List Nat) : (ownBlock n r q t p).qc = q := rfl
@[simp] theorem ownBlock_tc (n r : Nat) (q : QC) (t : Option TC) (p : List Nat) : (ownBlock n r q t p).tc = t := rfl
@[simp] theorem ownBlock_round (n r : Nat) (q : QC) (t : Option TC) (p : List Nat) : (ownBlock n r q t p).round = r := rfl
@[simp] theorem ownBlock_author (n r : Nat) (q : QC) (t : Option TC) (p : List Nat) : (ownBlock n r q t p).author = n := rfl
@[simp] theorem ownBlock_payload (n r : Nat) (q : QC) (t : Option TC) (p : List Nat) : (ownBlock n r q t p).payload = p := rfl

/-- Rewrite with this before comparing a field of `beforeCommit s ..` with the field of `s`: the
definition is five record updates deep, and `rfl` through it copies the record at every level. -/
theorem beforeCommit_eq (s : Node) (b0 b1 b : Block) : beforeCommit s b0 b1 b =
    { s with store := (b.digest, b) :: s.store,
             propQ := s.propQ ++ [.cleanup (b0.payload ++ b1.payload ++ b.payload)],
             payPending := s.payPending.filter (fun e => e.1.round > b0.round),
             hist := .twoChain b0 b1 b :: .mempoolCleanup b0.round :: s.hist } := rfl

/-- The vote `make_vote` builds for `b` when the node is `name`. -/
def voteFor (name : Nat) (b : Block) : Vote :=
  { hash := b.digest, round := b.round, author := name, sig := ⟨name, .vote b.digest b.round⟩ }

namespace Node

/-- The timeout `local_timeout_round` signs. -/
def ownTimeout (s : Node) : Timeout :=
  { highQC := s.highQC, round := s.round, author := s.name,
    sig := ⟨s.name, .timeout s.round s.highQC.round⟩ }

/-- The common tail of `handle_vote`, `handle_timeout` and `handle_tc` once a certificate has been
processed: the leader of the round the node is now in asks its proposer for a block. -/
def proposeIfLeader (c : Committee) (s : Node) (tc : Option TC) : Node :=
  if s.name == c.leader s.round then s.generateProposal tc else s

/-- What `commit` does once the ancestor walk has returned `anc`. -/
def deliver (s : Node) (b : Block) (anc : List Block) : Node :=
  (anc.reverse ++ [b]).foldl (fun s x => s.emit (.commit x)) { s with lastCommitted := b.round }

end Node

/-- A vote reaches `handle_vote` from the network, or as the node's own vote for a block it has
recorded as voted. -/
def VoteSrc (e : Event) (s : Node) (v : Vote) : Prop :=
  e = .msg (.vote v) ∨ ∃ b, Out.voted b ∈ s.hist ∧ v = voteFor s.name b

/-- A timeout reaches `handle_timeout` from the network, or as the node's own, just recorded. -/
def TimeoutSrc (e : Event) (s : Node) (t : Timeout) : Prop :=
  e = .msg (.timeout t) ∨ (e = .timer ∧ Out.timeout t ∈ s.hist ∧ t = s.ownTimeout)

/-- What holds of `b` once its certificate has been processed. -/
def Below (s : Node) (b : Block) : Prop := b.qc.round < s.round ∧ b.qc.round ≤ s.highQC.round

/-- `b1` and `b0` are what `get_parent_block` returns for `b` and then for `b1`, without parking. -/
def Ancestors (c : Committee) (s : Node) (b b1 b0 : Block) : Prop :=
  getParent c s b = (s, .found b1) ∧ getParent c s b1 = (s, .found b0)

/-- The handling of a certificate, or of a message that may complete one: `handle_vote`,
`handle_timeout`, `handle_tc` and the first part of `handle_proposal`, one constructor per outcome that
changes the state.  These touch the round, the high QC, the aggregator, and ask the proposer. -/
inductive CertMove (c : Committee) (e : Event) : Node → Node → Prop
  /- `handle_vote`: the three outcomes in which the state changes. -/
  | voteCounted {s} (v : Vote) (a : Aggregator) (src : VoteSrc e s v)
      (fresh : ¬ Gen.voteStale v.round s.round) (ok : v.verify c = .ok ())
      (add : s.agg.addVote c v = .ok (a, none)) :
      CertMove c e s { s with agg := a }
  | voteCertifies {s} (v : Vote) (a : Aggregator) (qc : QC) (src : VoteSrc e s v)
      (fresh : ¬ Gen.voteStale v.round s.round) (ok : v.verify c = .ok ())
      (add : s.agg.addVote c v = .ok (a, some qc)) :
      CertMove c e s ((({ s with agg := a } : Node).processQC qc).proposeIfLeader c none)
  /- `handle_timeout`. -/
  | timeoutSeen {s} (t : Timeout) (src : TimeoutSrc e s t)
      (fresh : ¬ Gen.timeoutStale t.round s.round) (ok : t.verify c = .ok ()) :
      CertMove c e s (s.processQC t.highQC)
  | timeoutCounted {s} (t : Timeout) (a : Aggregator) (src : TimeoutSrc e s t)
      (fresh : ¬ Gen.timeoutStale t.round s.round) (ok : t.verify c = .ok ())
      (add : (s.processQC t.highQC).agg.addTimeout c t = .ok (a, none)) :
      CertMove c e s { s.processQC t.highQC with agg := a }
  | timeoutCertifies {s} (t : Timeout) (a : Aggregator) (tc : TC) (src : TimeoutSrc e s t)
      (fresh : ¬ Gen.timeoutStale t.round s.round) (ok : t.verify c = .ok ())
      (add : (s.processQC t.highQC).agg.addTimeout c t = .ok (a, some tc)) :
      CertMove c e s
        (((({ s.processQC t.highQC with agg := a } : Node).advanceRound tc.round (.tc tc)).emit
          (.tc tc)).proposeIfLeader c (some tc))
  /- `handle_tc`. -/
  | tcSeen {s} (tc : TC) (he : e = .msg (.tc tc)) (ok : tc.verify c = .ok ())
      (fresh : ¬ Gen.tcStale tc.round s.round) :
      CertMove c e s ((s.advanceRound tc.round (.tc tc)).proposeIfLeader c (some tc))
  /- `handle_proposal`: the proposal is by the leader and verifies; its certificates are processed. -/
  | proposalCerts {s} (b : Block) (he : e = .msg (.propose b)) (ldr : b.author = c.leader b.round)
      (ok : b.verify c = .ok ()) :
      CertMove c e s ((s.processQC b.qc).advanceTC b.tc)

inductive Move (c : Committee) (e : Event) : Option Block → Node → Option Block → Node → Prop
  | cert {cur s s'} (m : CertMove c e s s') : Move c e cur s cur s'
  /- `local_timeout_round`, up to the call of `handle_timeout`. -/
  | timerFired {cur s} (he : e = .timer) :
      Move c e cur s cur
        (({ s with lastVoted := max s.lastVoted s.round } : Node).emit (.timeout s.ownTimeout))
  /- `handle_proposal`, after the certificates: either some batch is missing (the mempool is asked, the
  block waits unless it waits already), or the block goes on to `process_block`. -/
  | proposalAsks {s} (b : Block) (he : e = .msg (.propose b)) :
      Move c e none s none
        (s.emit (.mempoolSync (b.payload.filter (fun d => !s.avail.contains d)) b.author))
  | proposalWaits {s} (b : Block) (he : e = .msg (.propose b)) (ldr : b.author = c.leader b.round)
      (ok : b.verify c = .ok ()) (below : Below s b) :
      Move c e none s none
        { s with payPending := s.payPending ++ [(b, b.payload.filter (fun d => !s.avail.contains d))] }
  | proposalEnters {s} (b : Block) (he : e = .msg (.propose b)) (ldr : b.author = c.leader b.round)
      (ok : b.verify c = .ok ()) (below : Below s b) (pay : ∀ d ∈ b.payload, d ∈ s.avail) :
      Move c e none s (some b) s
  /- `Core` takes a block from the loop-back channel. -/
  | loopback {s} (b : Block) (rest : List Block) (he : e = .loopback) (hq : s.loopQ = b :: rest) :
      Move c e none s (some b) { s with loopQ := rest }
  /- `process_block`. -/
  | parksBehind {s} (b x : Block) (held : x = b ∨ ∃ d, (d, x) ∈ s.store) :
      Move c e (some b) s (some b) { s with syncPending := s.syncPending ++ [x] }
  | parksAsks {s} (b x : Block) (held : x = b ∨ ∃ d, (d, x) ∈ s.store)
      (mem : c.keys.contains x.author = true) :
      Move c e (some b) s (some b)
        (({ s with syncPending := s.syncPending ++ [x],
                   syncRequests := s.syncRequests ++ [x.parent] } : Node).emit
          (.syncRequest (some x.author) x.parent))
  | parksUnknown {s} (b x : Block) (held : x = b ∨ ∃ d, (d, x) ∈ s.store)
      (mem : c.keys.contains x.author = false) :
      Move c e (some b) s (some b)
        (({ s with syncPending := s.syncPending ++ [x],
                   syncRequests := s.syncRequests ++ [x.parent] } : Node).fail .authorNotInCommittee)
  | ancestorFails {s} (b b1 : Block) (stored : ∃ d, (d, b1) ∈ s.store)
      (orphan : b1.qc.isGenesis = false ∧ s.store.lookup b1.parent = none) :
      Move c e (some b) s (some b) (s.fail .missingAncestorDelivered)
  | stores {s} (b b1 b0 : Block) (anc : Ancestors c s b b1 b0)
      (gap : Gen.twoChainRule b0.round b1.round = false) :
      Move c e (some b) s (some b) (afterStore s b0 b1 b)
  | storesChain {s} (b b1 b0 : Block) (anc : Ancestors c s b b1 b0)
      (chain : Gen.twoChainRule b0.round b1.round = true) :
      Move c e (some b) s (some b) (beforeCommit s b0 b1 b)
  | commitFails {s} (b b1 b0 : Block) (top : ∃ rest, s.hist = .twoChain b0 b1 b :: rest)
      (stored : b0 = Block.genesis ∨ ∃ d, (d, b0) ∈ s.store)
      (new : ¬ Gen.alreadyCommitted b0.round s.lastCommitted)
      (walk : commitWalk c s (digestDepth b0.digest + 1) b0 [] = .panic) :
      Move c e (some b) s (some b) (s.fail .missingAncestorCommit)
  /- `make_vote` and the sending of the vote. -/
  | emptyTC {s} (b : Block) (alive : s.panic = none) (rule : safetyRule2 b = none) :
      Move c e (some b) s (some b) (s.fail .emptyTC)
  | votes {s} (b : Block) (alive : s.panic = none) (round : b.round = s.round)
      (rule1 : Gen.safetyRule1 b.round s.lastVoted = true) (rule2 : safetyRule2 b = some true) :
      Move c e (some b) s (some b)
        (({ s with lastVoted := max s.lastVoted b.round } : Node).emit (.voted b))
  | voteSent {s} (b : Block) (top : ∃ rest, s.hist = .voted b :: rest) (round : b.round = s.round)
      (other : c.leader (s.round + 1) ≠ s.name)
      (mem : c.keys.contains (c.leader (s.round + 1)) = true) :
      Move c e (some b) s (some b) (s.emit (.vote (c.leader (s.round + 1)) (voteFor s.name b)))
  | voteKept {s} (b : Block) (top : ∃ rest, s.hist = .voted b :: rest) (round : b.round = s.round)
      (self : c.leader (s.round + 1) = s.name) :
      Move c e (some b) s (some b) (s.emit (.selfVote (voteFor s.name b)))
  | noNextLeader {s} (b : Block) (mem : c.keys.contains (c.leader (s.round + 1)) = false) :
      Move c e (some b) s (some b) (s.fail .nextLeaderNotInCommittee)
  /- proposer.rs -/
  | proposerCleans {s} (ds : List Nat) (rest : List PMsg) (he : ∃ order, e = .proposer order)
      (hq : s.propQ = .cleanup ds :: rest) :
      Move c e none s none
        { s with propQ := rest, buffer := s.buffer.filter (fun d => !ds.contains d) }
  | proposes {s} (order : List Nat) (r : Nat) (qc : QC) (tc : Option TC) (rest : List PMsg)
      (he : e = .proposer order) (hq : s.propQ = .make r qc tc :: rest)
      (perm : isPerm order s.buffer = true) :
      Move c e none s none
        (({ s with propQ := rest, buffer := [],
                   loopQ := s.loopQ ++ [ownBlock s.name r qc tc order] } : Node).emit
          (.propose (ownBlock s.name r qc tc order)))
  /- helper.rs -/
  | helperReplies {s} (d : Digest) (origin : Nat) (b : Block) (he : e = .helper d origin)
      (mem : c.keys.contains origin = true) (hb : s.readBlock d = .found b) :
      Move c e none s none (s.emit (.helperReply origin b))
  | helperFails {s} (d : Digest) (origin : Nat) (he : e = .helper d origin)
      (hb : s.readBlock d = .corrupt) (sw : Gen.helperSkipsNonBlock = false) :
      Move c e none s none (s.fail .helperNotABlock)
  /- mempool side, synchronizer and payload waiter -/
  | batchStored {s} (d : Nat) (he : e = .batch d ∨ e = .digest d) (new : s.avail.contains d = false) :
      Move c e none s none { s with avail := d :: s.avail }
  | digestBuffered {s} (d : Nat) (he : e = .digest d) (mem : d ∈ s.avail)
      (new : s.buffer.contains d = false) :
      Move c e none s none { s with buffer := s.buffer ++ [d] }
  | syncResumes {s} (i : Nat) (b : Block) (he : e = .syncResume i) (hb : s.syncPending[i]? = some b)
      (here : s.readBlock b.parent ≠ .missing) :
      Move c e none s none
        { s with syncPending := removeAt s.syncPending i,
                 syncRequests := s.syncRequests.filter (fun d => d != b.parent),
                 loopQ := s.loopQ ++ [b] }
  | payloadResumes {s} (i : Nat) (b : Block) (missing : List Nat) (he : e = .payloadResume i)
      (hb : s.payPending[i]? = some (b, missing))
      (here : missing.all (fun d => s.avail.contains d) = true) :
      Move c e none s none
        { s with payPending := removeAt s.payPending i, loopQ := s.loopQ ++ [b] }
  | syncRetries {s} (d : Digest) (he : e = .syncRetry d) (mem : s.syncRequests.contains d = true) :
      Move c e none s none (s.emit (.syncRequest none d))

/-- A sequence of moves; the block in flight is threaded through. -/
inductive Moves (c : Committee) (e : Event) : Option Block → Node → Option Block → Node → Prop
  | nil {cur s} : Moves c e cur s cur s
  | cons {cur s cur₁ s₁ cur₂ s₂} :
      Move c e cur s cur₁ s₁ → Moves c e cur₁ s₁ cur₂ s₂ → Moves c e cur s cur₂ s₂

/-- `commit(b0)` delivers: called on the 2-chain just recorded, with the ancestor walk ending
normally above the watermark.  The only place where the commit channel and the watermark move. -/
inductive Delivery (c : Committee) : Option Block → Node → Node → Prop
  | mk {s} (b b1 b0 : Block) (anc : List Block) (top : ∃ rest, s.hist = .twoChain b0 b1 b :: rest)
      (stored : b0 = Block.genesis ∨ ∃ d, (d, b0) ∈ s.store)
      (new : ¬ Gen.alreadyCommitted b0.round s.lastCommitted)
      (walk : commitWalk c s (digestDepth b0.digest + 1) b0 [] = .done anc) :
      Delivery c (some b) s (s.deliver b0 anc)

/-- What one micro-step is: moves, at most one delivery, moves. -/
def Steps (c : Committee) (e : Event) (cur : Option Block) (s : Node) (cur' : Option Block)
    (s' : Node) : Prop :=
  ∃ cur₁ s₁ s₂,
    Moves c e cur s cur₁ s₁ ∧ (s₂ = s₁ ∨ Delivery c cur₁ s₁ s₂) ∧ Moves c e cur₁ s₂ cur' s'

section
variable {c : Committee} {e : Event} {cur cur₁ cur₂ cur₃ : Option Block} {s s₁ s₂ s₃ : Node}

theorem Move.moves (h : Move c e cur s cur₁ s₁) : Moves c e cur s cur₁ s₁ := .cons h .nil

theorem Moves.trans (h₁ : Moves c e cur s cur₁ s₁) (h₂ : Moves c e cur₁ s₁ cur₂ s₂) :
    Moves c e cur s cur₂ s₂ := by
  induction h₁ with
  | nil => exact h₂
  | cons m _ ih => exact .cons m (ih h₂)

theorem Moves.steps (h : Moves c e cur s cur₁ s₁) : Steps c e cur s cur₁ s₁ :=
  ⟨_, _, _, h, .inl rfl, .nil⟩

theorem Steps.after (h₁ : Moves c e cur s cur₁ s₁) (h₂ : Steps c e cur₁ s₁ cur₂ s₂) :
    Steps c e cur s cur₂ s₂ := by
  obtain ⟨_, _, _, a, d, b⟩ := h₂
  exact ⟨_, _, _, h₁.trans a, d, b⟩

end

theorem run_induct {c : Committee} {P : Node → Prop} (hstep : ∀ s e, P s → P (step c s e))
    {s : Node} (h : P s) (es : List Event) : P (run c s es) :=
  es.foldlRecOn (step c) h fun s hs e _ => hstep s e hs

theorem run_append (c : Committee) (s : Node) (es es' : List Event) :
    run c s (es ++ es') = run c (run c s es) es' := by
  simp [run, List.foldl_append]

theorem readBlock_found {s : Node} {d : Digest} {b : Block} (h : s.readBlock d = .found b) :
    s.store.lookup d = some b := by
  unfold readBlock at h
  split at h
  · rename_i b' hb'; cases h; exact hb'
  · split at h <;> (try split at h) <;> cases h

theorem getParent_found {c : Committee} {s : Node} {b p : Block} (h : (getParent c s b).2 = .found p) :
    getParent c s b = (s, .found p) := by
  unfold getParent at h ⊢
  split at h
  · rename_i hg; cases h; rw [if_pos hg]
  · rename_i hg
    rw [if_neg hg]
    split at h <;> cases h
    rfl

theorem readBlock_of_lookup {s : Node} {d : Digest} {b : Block} (h : s.store.lookup d = some b) :
    s.readBlock d = .found b := by
  unfold readBlock; rw [h]

theorem getParent_found_iff {c : Committee} {s : Node} {b p : Block} :
    getParent c s b = (s, .found p) ↔
      (b.qc.isGenesis = true ∧ p = Block.genesis) ∨
      (b.qc.isGenesis = false ∧ s.store.lookup b.parent = some p) := by
  unfold getParent
  by_cases hg : b.qc.isGenesis = true
  · simp [hg, eq_comm]
  · cases hr : s.readBlock b.parent with
    | found p' => simp [hg, readBlock_found hr, eq_comm]
    | _ =>
      simp only [hg, Bool.false_eq_true, if_false, false_and, false_or, true_and, Prod.mk.injEq,
        reduceCtorEq, and_false, false_iff]
      exact fun h => nomatch (readBlock_of_lookup h).symm.trans hr

theorem getParent_stored {c : Committee} {s : Node} {b p : Block} (h : getParent c s b = (s, .found p)) :
    p = Block.genesis ∨ ∃ d, (d, p) ∈ s.store :=
  (getParent_found_iff.1 h).imp (·.2) fun hl => ⟨_, mem_of_lookup hl.2⟩

theorem getParent_parked {c : Committee} {s : Node} {b : Block} (h : (getParent c s b).2 = .parked) :
    (getParent c s b).1 = park c s b ∧ b.qc.isGenesis = false ∧ s.store.lookup b.parent = none := by
  unfold getParent at h ⊢
  by_cases hg : b.qc.isGenesis = true
  · rw [if_pos hg] at h; cases h
  · rw [if_neg hg] at h ⊢
    cases hr : s.readBlock b.parent with
    | found p => rw [hr] at h; cases h
    | corrupt => rw [hr] at h; cases h
    | missing =>
      refine ⟨rfl, by simpa using hg, ?_⟩
      unfold readBlock at hr
      split at hr
      · cases hr
      · assumption

theorem getParent_error {c : Committee} {s : Node} {b : Block} (h : (getParent c s b).2 = .error) :
    (getParent c s b).1 = s := by
  unfold getParent at h ⊢
  split
  · rfl
  · rename_i hg
    rw [if_neg hg] at h
    split
    · rfl
    · rfl
    · rename_i missing  -- a missing parent parks: the outcome is `.parked`, not `.error`
      rw [missing] at h; cases h

theorem isPerm_perm {a b : List Nat} (h : isPerm a b = true) : a.Perm b := by
  simp only [isPerm, Bool.and_eq_true, beq_iff_eq, List.all_eq_true] at h
  obtain ⟨hl, hc⟩ := h
  induction a generalizing b with
  | nil => rw [List.length_eq_zero_iff.mp hl.symm]
  | cons y a ih =>
    -- `y` occurs in `b`; take it out on both sides
    have hy : y ∈ b := List.count_pos_iff.mp (by rw [← hc y (.head _)]; simp)
    refine (List.Perm.cons y (ih ?_ fun x hx => ?_)).trans (List.perm_cons_erase hy).symm
    · rw [List.length_erase_of_mem hy, ← hl]; rfl
    · have := hc x (.tail _ hx)
      by_cases e : x = y
      · subst e; simp at this ⊢; omega
      · have e' : ¬ y = x := fun h => e h.symm
        simpa [List.count_cons, List.count_erase, e, e'] using this

section
variable {P : Node → Prop} {s : Node}

theorem advanceRound_cases {r : Nat} {ev : Evidence} (stale : r < s.round → P s)
    (fresh : s.round ≤ r →
      P (({ s with round := r + 1, agg := s.agg.cleanup (r + 1) } : Node).emit (.entered (r + 1) ev))) :
    P (s.advanceRound r ev) := by
  unfold advanceRound
  split
  · rename_i h; exact stale h
  · rename_i h; exact fresh (Nat.le_of_not_lt h)

theorem updateHighQC_cases {qc : QC} (old : qc.round ≤ s.highQC.round → P s)
    (new : s.highQC.round < qc.round → P { s with highQC := qc }) : P (s.updateHighQC qc) := by
  unfold updateHighQC
  split
  · rename_i h; exact new h
  · rename_i h; exact old (Nat.le_of_not_lt h)

theorem advanceTC_cases {tc : Option TC} (none : P s)
    (some : ∀ t, tc = some t → P (s.advanceRound t.round (.tc t))) : P (s.advanceTC tc) := by
  cases tc with
  | none => exact none
  | some t => exact some t rfl

theorem proposeIfLeader_cases {c : Committee} {tc : Option TC} (other : P s)
    (leader : s.name = c.leader s.round → P (s.generateProposal tc)) : P (s.proposeIfLeader c tc) := by
  unfold proposeIfLeader
  split
  · rename_i h; exact leader (by simpa using h)
  · exact other

end

/-- `Core::run` boots with the same `if self.name == leader(round) { generate_proposal(None) }`. -/
theorem init_eq (c : Committee) (name : Nat) :
    Node.init c name = ({ name := name } : Node).proposeIfLeader c none := by
  unfold Node.init proposeIfLeader generateProposal; split <;> rfl

theorem advanceRound_round (s : Node) (r : Nat) (ev : Evidence) :
    (s.advanceRound r ev).round = max s.round (r + 1) := by
  unfold advanceRound
  split
  · rename_i h; exact (Nat.max_eq_left (Nat.succ_le_of_lt h)).symm
  · rename_i h; exact (Nat.max_eq_right (Nat.le_succ_of_le (Nat.le_of_not_lt h))).symm

theorem processQC_round (s : Node) (qc : QC) : (s.processQC qc).round = max s.round (qc.round + 1) := by
  unfold processQC updateHighQC
  split <;> exact advanceRound_round s _ _

theorem advanceRound_gt (s : Node) (r : Nat) (ev : Evidence) : r < (s.advanceRound r ev).round := by
  rw [advanceRound_round]; omega

theorem advanceRound_highQC (s : Node) (r : Nat) (ev : Evidence) : (s.advanceRound r ev).highQC = s.highQC :=
  advanceRound_cases (P := fun x => x.highQC = s.highQC) (fun _ => rfl) fun _ => rfl

theorem processQC_gt (s : Node) (qc : QC) : qc.round < (s.processQC qc).round := by
  rw [processQC_round]; omega

theorem processQC_highQC (s : Node) (qc : QC) : qc.round ≤ (s.processQC qc).highQC.round :=
  updateHighQC_cases (P := fun x => qc.round ≤ x.highQC.round) id fun _ => Nat.le_refl _

section
variable (c : Committee) (e : Event)

theorem moves_handleVote {cur : Option Block} (s : Node) (v : Vote) (src : VoteSrc e s v) :
    Moves c e cur s cur (s.handleVote c v) := by
  unfold handleVote
  split
  · exact .nil
  · rename_i fresh
    split
    · exact .nil
    · rename_i u ok
      cases u
      split
      · exact .nil
      · rename_i a add; exact (Move.cert (.voteCounted v a src fresh ok add)).moves
      · rename_i a qc add; exact (Move.cert (.voteCertifies v a qc src fresh ok add)).moves

theorem moves_handleTimeout {cur : Option Block} (s : Node) (t : Timeout) (src : TimeoutSrc e s t) :
    Moves c e cur s cur (s.handleTimeout c t) := by
  unfold handleTimeout
  split
  · exact .nil
  · rename_i fresh
    split
    · exact .nil
    · rename_i u ok
      cases u
      simp only []
      split
      · exact (Move.cert (.timeoutSeen t src fresh ok)).moves
      · rename_i a add; exact (Move.cert (.timeoutCounted t a src fresh ok add)).moves
      · rename_i a tc add; exact (Move.cert (.timeoutCertifies t a tc src fresh ok add)).moves

theorem moves_handleTC {cur : Option Block} (s : Node) (tc : TC) (he : e = .msg (.tc tc)) :
    Moves c e cur s cur (s.handleTC c tc) := by
  unfold handleTC
  split
  · exact .nil
  · rename_i u ok
    cases u
    split
    · exact .nil
    · rename_i fresh; exact (Move.cert (.tcSeen tc he ok fresh)).moves

theorem moves_localTimeout {cur : Option Block} (s : Node) (he : e = .timer) :
    Moves c e cur s cur (s.localTimeout c) := by
  unfold localTimeout
  exact .cons (.timerFired he) (moves_handleTimeout c e _ _ (.inr ⟨he, .head _, rfl⟩))

theorem moves_sendVote (s : Node) (b : Block) (top : ∃ rest, s.hist = .voted b :: rest)
    (round : b.round = s.round) :
    Moves c e (some b) s (some b) (sendVote c s (voteFor s.name b)) := by
  unfold sendVote
  split
  · rename_i self
    refine .cons (.voteKept b top round (by simpa using self)) (moves_handleVote c e _ _ (.inr ⟨b, ?_, rfl⟩))
    obtain ⟨rest, h⟩ := top
    simp [emit, h]
  · rename_i other
    split
    · rename_i mem
      exact (Move.voteSent b top round (by simpa using other) mem).moves
    · rename_i mem
      exact (Move.noNextLeader b (by simpa using mem)).moves

theorem moves_voteStage (s : Node) (ok : Bool) (b : Block) :
    Moves c e (some b) s (some b) (voteStage c s ok b) := by
  unfold voteStage
  split
  · exact .nil
  · rename_i alive
    split
    · exact .nil
    · rename_i round
      have alive : s.panic = none := by
        cases h : s.panic <;> simp [h] at alive ⊢
      have round : b.round = s.round := by simpa using round
      cases rule : safetyRule2 b with
      | none => simp only [makeVote, rule]; exact (Move.emptyTC b alive rule).moves
      | some r =>
        by_cases h : (Gen.safetyRule1 b.round s.lastVoted && r) = true
        · simp only [makeVote, rule, h, if_true]
          simp only [Bool.and_eq_true] at h
          exact .cons (.votes b alive round h.1 (by rw [rule, h.2]))
            (moves_sendVote c e _ b ⟨_, rfl⟩ round)
        · simp only [makeVote, rule, h]; exact .nil

theorem moves_park (s : Node) (b x : Block) (held : x = b ∨ ∃ d, (d, x) ∈ s.store) :
    Moves c e (some b) s (some b) (park c s x) := by
  unfold park
  split
  · exact .nil
  · split
    · exact (Move.parksBehind b x held).moves
    · split
      · rename_i mem; exact (Move.parksAsks b x held mem).moves
      · rename_i mem; exact (Move.parksUnknown b x held (by simpa using mem)).moves

theorem park_store (s : Node) (x : Block) : (park c s x).store = s.store := by
  unfold park
  split
  · rfl
  · split
    · rfl
    · split <;> rfl

theorem steps_processBlockTail (s : Node) (b b1 b0 : Block) (anc : Ancestors c s b b1 b0) :
    Steps c e (some b) s (some b) (processBlockTail c s b0 b1 b) := by
  unfold processBlockTail
  split
  · rename_i chain
    have top : ∃ rest, (beforeCommit s b0 b1 b).hist = .twoChain b0 b1 b :: rest := ⟨_, rfl⟩
    have stored : b0 = Block.genesis ∨ ∃ d, (d, b0) ∈ (beforeCommit s b0 b1 b).store :=
      (getParent_stored anc.2).imp id fun ⟨_, h⟩ => ⟨_, List.mem_cons_of_mem _ h⟩
    refine Steps.after (Move.storesChain b b1 b0 anc chain).moves ?_
    unfold commit
    split
    · exact (moves_voteStage c e _ _ b).steps
    · rename_i new
      split
      · rename_i walk
        exact (Moves.cons (.commitFails b b1 b0 top stored new walk) (moves_voteStage c e _ _ b)).steps
      · exact (moves_voteStage c e _ _ b).steps
      · rename_i anc' walk
        exact ⟨_, _, _, .nil, .inr (.mk b b1 b0 anc' top stored new walk), moves_voteStage c e _ _ b⟩
  · rename_i gap
    exact (Moves.cons (.stores b b1 b0 anc (by simpa using gap)) (moves_voteStage c e _ _ b)).steps

theorem steps_processBlock (s : Node) (b : Block) :
    Steps c e (some b) s (some b) (processBlock c s b) := by
  unfold processBlock
  split
  · rename_i hp; rw [(getParent_parked hp).1]; exact (moves_park c e s b b (.inl rfl)).steps
  · rename_i hp; rw [getParent_error hp]; exact Moves.nil.steps
  · rename_i b1 h1
    have h1 := getParent_found h1
    rw [h1]
    split
    · rename_i h0
      obtain ⟨h0, orphan⟩ := getParent_parked h0
      have stored : ∃ d, (d, b1) ∈ s.store :=
        (getParent_stored h1).resolve_left (by rintro rfl; exact absurd orphan.1 (by decide))
      rw [h0]
      refine ((moves_park c e s b b1 (.inr stored)).trans (Move.ancestorFails b b1 ?_ ?_).moves).steps
      · rw [park_store]; exact stored
      · rw [park_store]; exact orphan
    · rename_i h0; rw [getParent_error h0]; exact Moves.nil.steps
    · rename_i b0 h0
      have h0 := getParent_found h0
      rw [h0]
      exact steps_processBlockTail c e s b b1 b0 ⟨h1, h0⟩

theorem steps_handleProposal (s : Node) (b : Block) (he : e = .msg (.propose b)) :
    ∃ cur, Steps c e none s cur (s.handleProposal c b) := by
  unfold handleProposal
  split
  · exact ⟨_, Moves.nil.steps⟩
  · rename_i ldr
    have ldr : b.author = c.leader b.round := by simpa using ldr
    split
    · exact ⟨_, Moves.nil.steps⟩
    · rename_i u ok
      cases u
      have certs := (Move.cert (cur := none) (.proposalCerts (s := s) b he ldr ok)).moves
      have below : Below ((s.processQC b.qc).advanceTC b.tc) b :=
        have gt := processQC_gt s b.qc
        have hq := processQC_highQC s b.qc
        advanceTC_cases (P := (Below · b)) ⟨gt, hq⟩ fun t _ =>
          ⟨by rw [advanceRound_round]; omega, (advanceRound_highQC _ _ _).symm ▸ hq⟩
      generalize (s.processQC b.qc).advanceTC b.tc = s₁ at certs below ⊢
      by_cases hm : (b.payload.filter (fun d => !s₁.avail.contains d)).isEmpty = true
      · have pay : ∀ d ∈ b.payload, d ∈ s₁.avail := fun d hd => by
          simpa using List.filter_eq_nil_iff.mp (List.isEmpty_iff.mp hm) d hd
        simp only [proposalTail, payloadVerify, hm, if_true]
        exact ⟨_, Steps.after (certs.trans (Move.proposalEnters b he ldr ok below pay).moves)
          (steps_processBlock c e s₁ b)⟩
      · have asks := certs.trans (Move.proposalAsks (s := s₁) b he).moves
        by_cases hk : s₁.payPending.any (fun e => e.1.digest == b.digest) = true
        · simp only [proposalTail, payloadVerify, hm, emit_payPending, hk, if_true]
          exact ⟨_, asks.steps⟩
        · simp only [proposalTail, payloadVerify, hm, emit_payPending, hk]
          exact ⟨_, (asks.trans (Move.proposalWaits (s := s₁.emit _) b he ldr ok below).moves).steps⟩

theorem moves_proposerStep (s : Node) (order : List Nat) (he : e = .proposer order) :
    Moves c e none s none (s.proposerStep order) := by
  unfold proposerStep
  split
  · exact .nil
  · rename_i ds rest hq; exact (Move.proposerCleans ds rest ⟨_, he⟩ hq).moves
  · rename_i r qc tc rest hq
    split
    · exact .nil
    · rename_i perm; exact (Move.proposes order r qc tc rest he hq (by simpa using perm)).moves

theorem moves_storeBatch (s : Node) (d : Nat) (he : e = .batch d ∨ e = .digest d) :
    Moves c e none s none (s.storeBatch d) := by
  unfold storeBatch
  split
  · exact .nil
  · rename_i new; exact (Move.batchStored d he (by simpa using new)).moves

theorem storeBatch_mem (s : Node) (d : Nat) : d ∈ (s.storeBatch d).avail := by
  unfold storeBatch
  split
  · rename_i h; simpa using h
  · exact .head _

theorem moves_digestStep (s : Node) (d : Nat) (he : e = .digest d) :
    Moves c e none s none (s.digestStep d) := by
  have stored := moves_storeBatch c e s d (.inr he)
  unfold digestStep
  split
  · exact stored
  · rename_i new
    exact stored.trans (Move.digestBuffered d he (storeBatch_mem s d) (by simpa using new)).moves

theorem moves_helperStep (s : Node) (d : Digest) (origin : Nat) (he : e = .helper d origin) :
    Moves c e none s none (s.helperStep c d origin) := by
  unfold helperStep
  split
  · exact .nil
  · rename_i mem
    split
    · rename_i b hb; exact (Move.helperReplies d origin b he (by simpa using mem) hb).moves
    · exact .nil
    · rename_i hb
      split
      · exact .nil
      · rename_i sw; exact (Move.helperFails d origin he hb (by simpa using sw)).moves

end

theorem step_steps (c : Committee) (s : Node) (e : Event) :
    ∃ cur, Steps c e none s cur (step c s e) := by
  unfold step
  split
  · exact ⟨_, Moves.nil.steps⟩  -- the node has panicked
  · split
    · exact steps_handleProposal c _ s _ rfl  -- .msg (.propose b)
    · exact ⟨_, (moves_handleVote c _ s _ (.inl rfl)).steps⟩  -- .msg (.vote v)
    · exact ⟨_, (moves_handleTimeout c _ s _ (.inl rfl)).steps⟩  -- .msg (.timeout t)
    · exact ⟨_, (moves_handleTC c _ s _ rfl).steps⟩  -- .msg (.tc t)
    · exact ⟨_, (moves_localTimeout c _ s rfl).steps⟩  -- .timer
    · split  -- .loopback
      · exact ⟨_, Moves.nil.steps⟩
      · rename_i b rest hq
        exact ⟨_, Steps.after (Move.loopback b rest rfl hq).moves (steps_processBlock c _ _ b)⟩
    · exact ⟨_, (moves_proposerStep c _ s _ rfl).steps⟩  -- .proposer order
    · exact ⟨_, (moves_digestStep c _ s _ rfl).steps⟩  -- .digest d
    · exact ⟨_, (moves_storeBatch c _ s _ (.inl rfl)).steps⟩  -- .batch d
    · rename_i i  -- .syncResume i
      split
      · exact ⟨_, Moves.nil.steps⟩
      · rename_i b hb
        split
        · exact ⟨_, Moves.nil.steps⟩
        · rename_i here
          exact ⟨_, (Move.syncResumes i b rfl hb here).moves.steps⟩
    · rename_i i  -- .payloadResume i
      split
      · exact ⟨_, Moves.nil.steps⟩
      · rename_i b missing hb
        split
        · rename_i here; exact ⟨_, (Move.payloadResumes i b missing rfl hb here).moves.steps⟩
        · exact ⟨_, Moves.nil.steps⟩
    · rename_i d  -- .syncRetry d
      split
      · rename_i mem; exact ⟨_, (Move.syncRetries d rfl mem).moves.steps⟩
      · exact ⟨_, Moves.nil.steps⟩
    · exact ⟨_, (moves_helperStep c _ s _ _ rfl).steps⟩  -- .helper d origin

end HS
