import HotstuffModel.Proofs.NodeInv2
import HotstuffModel.Proofs.NodeInv5
/-!
Inv3, Inv4 and Inv5 for every state reachable from `init` by any event list, in a well-formed
deployment.  (Inv1 and Inv2 need no deployment: `reachable_inv12`, Proofs/NodeInv2; the wire invariant:
`reachable_wire`, Proofs/WireVotes; Inv6 speaks of all nodes at once: `reach_legit`, Proofs/Global.)
-/
namespace HS
open Node

/-- Well-formed deployment: the committee is non-empty and the node is a member. -/
structure Deploy (c : Committee) (name : Nat) : Prop where
  nonempty : c.keys ≠ []
  member : name ∈ c.keys

/-- `hsw` is discharged by `rfl` while helper.rs skips non-block entries
(Generated/Switches.lean); only panic-freedom (`Inv4`) needs it. -/
theorem reachable_inv345 (c : Committee) (name : Nat) (hd : Deploy c name)
    (hsw : Gen.helperSkipsNonBlock = true) (es : List Event) :
    Inv3 c (run c (init c name) es) ∧ Inv4 (run c (init c name) es) ∧
      Inv5 (run c (init c name) es) :=
  run_induct (P := fun s => Inv3 c s ∧ Inv4 s ∧ Inv5 s)
    (fun s e ⟨h3, h4, h5⟩ =>
      ⟨inv3_step c s e h3, inv4_step c hd.nonempty hsw s e h3 h4, inv5_step c s e h4 h5⟩)
    ⟨inv3_init c name hd.member, inv4_init c name, inv5_init c name⟩ es

theorem reachable_inv3 (c : Committee) (name : Nat) (hd : Deploy c name) (es : List Event) :
    Inv3 c (run c (init c name) es) :=
  run_induct (inv3_step c) (inv3_init c name hd.member) es

theorem reachable_inv4 (c : Committee) (name : Nat) (hd : Deploy c name)
    (hsw : Gen.helperSkipsNonBlock = true) (es : List Event) :
    Inv4 (run c (init c name) es) := (reachable_inv345 c name hd hsw es).2.1

theorem reachable_inv5 (c : Committee) (name : Nat) (hd : Deploy c name)
    (hsw : Gen.helperSkipsNonBlock = true) (es : List Event) :
    Inv5 (run c (init c name) es) := (reachable_inv345 c name hd hsw es).2.2

end HS
