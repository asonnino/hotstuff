import HotstuffModel.Model.Preimage
import HotstuffModel.Proofs.Bytes
/-!
The digest pre-images are concatenations of fields of known length: `List.append_inj` takes two equal
pre-images apart field by field; `le64_inj` and `flatten_inj_of` (a concatenation of strings of one non-zero
length determines the strings) finish.
-/
namespace HS.Wire

theorem flatten_length_of {n : Nat} (p : List (List UInt8)) (h : ∀ d ∈ p, d.length = n) :
    p.flatten.length = n * p.length := by
  rw [List.length_flatten, List.map_congr_left h, List.map_const', List.sum_replicate_nat, Nat.mul_comm]

theorem flatten_inj_of {n : Nat} (hn : 0 < n) (p q : List (List UInt8)) (hp : ∀ d ∈ p, d.length = n)
    (hq : ∀ d ∈ q, d.length = n) (h : p.flatten = q.flatten) : p = q := by
  have hl : p.length = q.length :=
    Nat.eq_of_mul_eq_mul_left hn (by rw [← flatten_length_of p hp, ← flatten_length_of q hq, h])
  induction p generalizing q with
  | nil => exact (List.eq_nil_of_length_eq_zero hl.symm).symm
  | cons d p ih =>
    cases q with
    | nil => cases hl
    | cons e q =>
      rw [List.forall_mem_cons] at hp hq
      obtain ⟨h1, h2⟩ := List.append_inj h (hp.1.trans hq.1.symm)
      rw [h1, ih q hp.2 hq.2 h2 (Nat.succ.inj hl)]

variable {a a' h h' q q' : List UInt8} {p p' : List (List UInt8)} {r r' k k' : Nat}

theorem blockPre_length (ha : a.length = 32) (hp : ∀ d ∈ p, d.length = 32) (hq : q.length = 32) :
    (blockPre a r p q).length = 72 + 32 * p.length := by
  unfold blockPre
  simp only [List.length_append, le64_length, flatten_length_of p hp, ha, hq]
  omega

theorem votePre_length (hh : h.length = 32) : (votePre h r).length = 40 := by
  unfold votePre
  simp [hh]

theorem timeoutPre_length : (timeoutPre r k).length = 16 := by
  unfold timeoutPre
  simp

theorem blockPre_inj (ha : a.length = 32) (ha' : a'.length = 32) (hr : r < 2 ^ 64) (hr' : r' < 2 ^ 64)
    (hp : ∀ d ∈ p, d.length = 32) (hp' : ∀ d ∈ p', d.length = 32)
    (hq : q.length = 32) (hq' : q'.length = 32)
    (e : blockPre a r p q = blockPre a' r' p' q') : a = a' ∧ r = r' ∧ p = p' ∧ q = q' := by
  unfold blockPre at e
  -- the parent comes off the end, so the length of the payload part is never needed
  obtain ⟨e, h4⟩ := List.append_inj' e (hq.trans hq'.symm)
  rw [List.append_assoc, List.append_assoc] at e
  obtain ⟨h1, e⟩ := List.append_inj e (ha.trans ha'.symm)
  obtain ⟨h2, h3⟩ := List.append_inj e (by simp)
  exact ⟨h1, le64_inj r r' hr hr' h2, flatten_inj_of (by decide) p p' hp hp' h3, h4⟩

theorem votePre_inj (hh : h.length = 32) (hh' : h'.length = 32) (hr : r < 2 ^ 64) (hr' : r' < 2 ^ 64)
    (e : votePre h r = votePre h' r') : h = h' ∧ r = r' := by
  obtain ⟨h1, h2⟩ := List.append_inj e (hh.trans hh'.symm)
  exact ⟨h1, le64_inj r r' hr hr' h2⟩

theorem timeoutPre_inj (hr : r < 2 ^ 64) (hr' : r' < 2 ^ 64) (hk : k < 2 ^ 64) (hk' : k' < 2 ^ 64)
    (e : timeoutPre r k = timeoutPre r' k') : r = r' ∧ k = k' := by
  obtain ⟨h1, h2⟩ := List.append_inj e (by simp)
  exact ⟨le64_inj r r' hr hr' h1, le64_inj k k' hk hk' h2⟩

end HS.Wire
