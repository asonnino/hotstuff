import HotstuffModel.Proofs.Bincode
/-!
What the bincode decoders do on *every* byte string (`Dec.Sat`): whatever they return is well-formed
(32-byte fields, rounds and lengths below 2^64), so the field-injectivity theorems of C20 apply to every
message a node can receive; and they panic only through the unchecked key slice (`c = false`).
-/
namespace HS.Wire
variable {Q : Prop}

theorem decDigest_sat : decDigest.Sat (fun d => d.length = 32) Q := .take 32

theorem decPk_sat (c : Bool) : (decPk c).Sat (fun k => k.length = 32) (c = false) :=
  .bind .byteVec fun s _ => .lift (decodeKey_sat c 32 s)

theorem decSig_sat : decSig.Sat Sig.WF Q :=
  .bind (.take 32) fun _ ha => .bind (.take 32) fun _ hb => .pure ⟨ha, hb⟩

theorem decQCVote_sat (c : Bool) : (decQCVote c).Sat (fun v => v.1.length = 32 ∧ v.2.WF) (c = false) :=
  .bind (decPk_sat c) fun _ hk => .bind decSig_sat fun _ hs => .pure ⟨hk, hs⟩

theorem decTCVote_sat (c : Bool) :
    (decTCVote c).Sat (fun v => v.1.length = 32 ∧ v.2.1.WF ∧ v.2.2 < 2 ^ 64) (c = false) :=
  .bind (decPk_sat c) fun _ hk => .bind decSig_sat fun _ hs => .bind .u64 fun _ hr => .pure ⟨hk, hs, hr⟩

theorem decQC_sat (c : Bool) : (decQC c).Sat QC.WF (c = false) :=
  .bind decDigest_sat fun _ hh => .bind .u64 fun _ hr => .bind (.vec (decQCVote_sat c)) fun _ hv =>
    .pure ⟨hh, hr, hv⟩

theorem decTC_sat (c : Bool) : (decTC c).Sat TC.WF (c = false) :=
  .bind .u64 fun _ hr => .bind (.vec (decTCVote_sat c)) fun _ hv => .pure ⟨hr, hv⟩

theorem decBlock_sat (c : Bool) : (decBlock c).Sat Block.WF (c = false) :=
  .bind (decQC_sat c) fun _ hq => .bind (.option (decTC_sat c)) fun _ ht => .bind (decPk_sat c) fun _ ha =>
    .bind .u64 fun _ hr => .bind (.vec decDigest_sat) fun _ hp => .bind decSig_sat fun _ hs =>
      .pure ⟨hq, ht, ha, hr, hp.1, hp.2, hs⟩

theorem decVote_sat (c : Bool) : (decVote c).Sat Vote.WF (c = false) :=
  .bind decDigest_sat fun _ hh => .bind .u64 fun _ hr => .bind (decPk_sat c) fun _ ha =>
    .bind decSig_sat fun _ hs => .pure ⟨hh, hr, ha, hs⟩

theorem decTimeout_sat (c : Bool) : (decTimeout c).Sat Timeout.WF (c = false) :=
  .bind (decQC_sat c) fun _ hq => .bind .u64 fun _ hr => .bind (decPk_sat c) fun _ ha =>
    .bind decSig_sat fun _ hs => .pure ⟨hq, hr, ha, hs⟩

theorem decCMsg_sat (c : Bool) : (decCMsg c).Sat CMsg.WF (c = false) :=
  .bind .u32 fun _ _ =>
    .ite (.bind (decBlock_sat c) fun _ h => .pure h) <|
    .ite (.bind (decVote_sat c) fun _ h => .pure h) <|
    .ite (.bind (decTimeout_sat c) fun _ h => .pure h) <|
    .ite (.bind (decTC_sat c) fun _ h => .pure h) <|
    .ite (.bind decDigest_sat fun _ hd => .bind (decPk_sat c) fun _ hk => .pure ⟨hd, hk⟩) .fail

theorem decMMsg_sat (c : Bool) : (decMMsg c).Sat MMsg.WF (c = false) :=
  .bind .u32 fun _ _ =>
    .ite (.bind (.vec .byteVec) fun _ h => .pure h) <|
    .ite (.bind (.vec decDigest_sat) fun _ hd => .bind (decPk_sat c) fun _ hk => .pure ⟨hd.1, hd.2, hk⟩) .fail

end HS.Wire
