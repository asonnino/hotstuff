import HotstuffModel.Model.Bincode
import HotstuffModel.Proofs.Base64
/-!
Round trips of the bincode model: every decoder reads a well-formed value back off its encoding
(`Dec.Reads`), whatever follows.  Each proof lists, field by field, what reads which part of the encoding;
`Reads.of_eq` reassociates the concatenation.
-/
namespace HS.Wire

namespace Dec.Reads
variable {α : Type} {d : Dec α} {e : α → List UInt8}

theorem byteVec {s : List UInt8} (h : s.length < 2 ^ 64) : Dec.byteVec.Reads (encByteVec s) s :=
  .bind (.u64 h) (.take rfl)

theorem vec {xs : List α} (hl : xs.length < 2 ^ 64) (h : ∀ x ∈ xs, d.Reads (e x) x) :
    (Dec.vec d).Reads (encVec e xs) xs :=
  .bind (.u64 hl) (.many h)

theorem option {o : Option α} (h : ∀ x, o = some x → d.Reads (e x) x) :
    (Dec.option d).Reads (encOption e o) o := by
  cases o with
  | none => exact fun _ => rfl
  | some x => exact .of_eq (by simp [encOption]) (.bind (.u8 (b := 1)) (.bind (h x rfl) (.pure _)))

end Dec.Reads

theorem decDigest_enc {d : List UInt8} (h : d.length = 32) : decDigest.Reads d d := .take h

theorem decPk_enc (c : Bool) {k : List UInt8} (h : k.length = 32) : (decPk c).Reads (encPk k) k :=
  have hl : (encodeKey k).length < 2 ^ 64 := by
    unfold encodeKey; rw [Base64.encode_length, h]; decide
  .of_eq (by simp [encPk]) (.bind (.byteVec hl) (.lift (decodeKey_encodeKey c 32 k h)))

theorem decSig_enc {s : Sig} (h : s.WF) : decSig.Reads (encSig s) s :=
  .of_eq (by simp [encSig]) (.bind (.take h.1) (.bind (.take h.2) (.pure _)))

theorem decQCVote_enc (c : Bool) {v : List UInt8 × Sig} (h : v.1.length = 32 ∧ v.2.WF) :
    (decQCVote c).Reads (encQCVote v) v :=
  .of_eq (by simp [encQCVote]) (.bind (decPk_enc c h.1) (.bind (decSig_enc h.2) (.pure _)))

theorem decTCVote_enc (c : Bool) {v : List UInt8 × Sig × Nat}
    (h : v.1.length = 32 ∧ v.2.1.WF ∧ v.2.2 < 2 ^ 64) : (decTCVote c).Reads (encTCVote v) v :=
  .of_eq (by simp [encTCVote])
    (.bind (decPk_enc c h.1) (.bind (decSig_enc h.2.1) (.bind (.u64 h.2.2) (.pure _))))

theorem decQC_enc (c : Bool) {q : QC} (h : q.WF) : (decQC c).Reads (encQC q) q := by
  obtain ⟨hh, hr, hvl, hv⟩ := h
  exact .of_eq (by simp [encQC])
    (.bind (decDigest_enc hh) (.bind (.u64 hr)
      (.bind (.vec hvl fun _ hm => decQCVote_enc c (hv _ hm)) (.pure _))))

theorem decTC_enc (c : Bool) {t : TC} (h : t.WF) : (decTC c).Reads (encTC t) t := by
  obtain ⟨hr, hvl, hv⟩ := h
  exact .of_eq (by simp [encTC])
    (.bind (.u64 hr) (.bind (.vec hvl fun _ hm => decTCVote_enc c (hv _ hm)) (.pure _)))

theorem decBlock_enc (c : Bool) {b : Block} : b.WF → (decBlock c).Reads (encBlock b) b
  | ⟨hqc, htc, ha, hr, hpl, hp, hs⟩ =>
    .of_eq (by simp [encBlock])
      (.bind (decQC_enc c hqc) (.bind (.option fun _ ht => decTC_enc c (htc _ ht))
        (.bind (decPk_enc c ha) (.bind (.u64 hr)
          (.bind (.vec (e := id) hpl fun _ hd => decDigest_enc (hp _ hd)) (.bind (decSig_enc hs) (.pure _)))))))

theorem decVote_enc (c : Bool) {v : Vote} (h : v.WF) : (decVote c).Reads (encVote v) v := by
  obtain ⟨hh, hr, ha, hs⟩ := h
  exact .of_eq (by simp [encVote])
    (.bind (decDigest_enc hh) (.bind (.u64 hr) (.bind (decPk_enc c ha) (.bind (decSig_enc hs) (.pure _)))))

theorem decTimeout_enc (c : Bool) {t : Timeout} (h : t.WF) : (decTimeout c).Reads (encTimeout t) t := by
  obtain ⟨hqc, hr, ha, hs⟩ := h
  exact .of_eq (by simp [encTimeout])
    (.bind (decQC_enc c hqc) (.bind (.u64 hr) (.bind (decPk_enc c ha) (.bind (decSig_enc hs) (.pure _)))))

/-- After the variant index has been read, `decCMsg` is an `if` chain on a numeral; the unifier evaluates
it to the branch of that variant. -/
theorem decCMsg_enc (c : Bool) {m : CMsg} (h : m.WF) : (decCMsg c).Reads (encCMsg m) m := by
  cases m with
  | propose b =>
    exact .of_eq (by simp [encCMsg]) (.bind (.u32 (n := 0) (by decide)) (.bind (decBlock_enc c h) (.pure _)))
  | vote v =>
    exact .of_eq (by simp [encCMsg]) (.bind (.u32 (n := 1) (by decide)) (.bind (decVote_enc c h) (.pure _)))
  | timeout t =>
    exact .of_eq (by simp [encCMsg]) (.bind (.u32 (n := 2) (by decide)) (.bind (decTimeout_enc c h) (.pure _)))
  | tc t =>
    exact .of_eq (by simp [encCMsg]) (.bind (.u32 (n := 3) (by decide)) (.bind (decTC_enc c h) (.pure _)))
  | syncRequest d k =>
    exact .of_eq (by simp [encCMsg])
      (.bind (.u32 (n := 4) (by decide)) (.bind (decDigest_enc h.1) (.bind (decPk_enc c h.2) (.pure _))))

theorem decMMsg_enc (c : Bool) {m : MMsg} (h : m.WF) : (decMMsg c).Reads (encMMsg m) m := by
  cases m with
  | batch txs =>
    exact .of_eq (by simp [encMMsg])
      (.bind (.u32 (n := 0) (by decide)) (.bind (.vec h.1 fun _ ht => .byteVec (h.2 _ ht)) (.pure _)))
  | batchRequest ds k =>
    exact .of_eq (by simp [encMMsg])
      (.bind (.u32 (n := 1) (by decide))
        (.bind (.vec (e := id) h.1 fun _ hd => decDigest_enc (h.2.1 _ hd)) (.bind (decPk_enc c h.2.2) (.pure _))))

end HS.Wire
