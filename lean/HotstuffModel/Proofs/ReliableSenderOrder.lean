import HotstuffModel.Proofs.ReliableSender
/-!
# Reliable sender: first transmissions happen in hand-over order

`written s.trace` lists the message ids of all frames written so far, OLDEST FIRST (`step` appends
what it emits at the END of `trace`), with repetitions; `(written s.trace).eraseDups` keeps the first
occurrence of each, i.e. lists the messages in the order of their first transmission.

`OrderInv s`: the messages in the order of their first transmission, followed by what is held and was
never transmitted, form a sublist of the hand-over order.  With "no live message is lost" (`InvH.keep`)
this gives the trace form `order_trace`: for `a` handed over before `b`, either `a` occurs in `written`
before the first occurrence of `b` (`FirstBefore`), or `a` was never written, is cancelled and is not
being written (so it never will be: `C14.cancelled_never_written_again`).
-/
namespace HS.RS

/-- `a` occurs in `W` before the first occurrence of `b` (vacuous if `b ∉ W`). -/
def FirstBefore (W : List Nat) (a b : Nat) : Prop :=
  ∀ p q, W = p ++ b :: q → b ∉ p → a ∈ p

theorem FirstBefore.append {W : List Nat} {a b : Nat} (h : FirstBefore W a b) (hb : b ∈ W)
    (X : List Nat) : FirstBefore (W ++ X) a b := by
  intro p q hW hp
  obtain ⟨p0, q0, h0, hp0⟩ := List.eq_append_cons_of_mem hb
  have : p0 ++ b :: (q0 ++ X) = p ++ b :: q := by rw [← hW, h0]; simp
  exact split_unique this hp0 hp ▸ h p0 q0 h0 hp0

theorem handed_before_writing {s : State} (h : Reachable s) {b : Nat} (hw : s.writing = some b)
    {pre post : List Nat} (hsplit : s.handed = pre ++ b :: post) {a : Nat} (ha : a ∈ pre) :
    a ∈ written s.trace ∨ a ∈ s.closed := by
  have H := h.invH
  by_cases hcl : a ∈ s.closed
  · exact .inr hcl
  have hsub := H.sub
  have hn := H.nodupH
  rw [held_writing hw, ← List.append_assoc, hsplit] at hsub
  rw [hsplit] at hn
  -- `a` is alive, so acknowledged or held (`keep`); then it stands before `b` in `acked ++ held`, i.e. among
  -- the acknowledged and the pending ones
  have hin : a ∈ acked s.trace ++ s.pending ++ b :: (s.buffer ++ s.chan) := by
    rw [List.append_assoc, ← held_writing hw, List.mem_append]
    exact (Classical.em _).imp_right (H.keep a (hsplit ▸ List.mem_append_left _ ha) hcl)
  exact .inl ((List.mem_append.1 (mem_left_of_sublist hsub hn ha hin)).elim (h.invP.ackW a) (h.invP.pendW a))

def OrderInv (s : State) : Prop :=
  ((written s.trace).eraseDups ++ s.held.removeAll (written s.trace)).Sublist s.handed

/-- Writing `b`, which stands in `held` behind messages written before, moves it from the front of the
never-written part of `held` to the end of the first transmissions — or changes nothing, if `b` was
written before. -/
theorem eraseDups_snoc_removeAll {W p t : List Nat} {b : Nat} (hp : ∀ x ∈ p, x ∈ W) (hb : b ∉ t) :
    (W ++ [b]).eraseDups ++ (p ++ b :: t).removeAll (W ++ [b]) = W.eraseDups ++ (p ++ b :: t).removeAll W := by
  -- `p` gives nothing on either side and `t` the same on both; what is left is `b` itself
  have hp' : p.removeAll W = [] ∧ p.removeAll (W ++ [b]) = [] := by
    constructor <;> exact List.filter_eq_nil_iff.2 fun x hx => by simp [hp x hx]
  have ht : t.removeAll (W ++ [b]) = t.removeAll W :=
    List.filter_congr fun x hx => by
      have : x ≠ b := fun h => hb (h ▸ hx)
      simp [this]
  have happ (a c d : List Nat) : (a ++ c).removeAll d = a.removeAll d ++ c.removeAll d := List.filter_append ..
  rw [List.eraseDups_append, happ, happ, hp'.1, hp'.2]
  by_cases hbW : b ∈ W <;> simp [List.cons_removeAll, ht, hbW, List.eraseDups_cons]

theorem orderInv_step (s : State) (e : Event) (H : InvH s) (P : InvP s) (J : OrderInv s) :
    OrderInv (step s e) := by
  have hs := step_spec s e
  unfold OrderInv
  rw [step_trace, written_append]
  cases hs.shape with
  | grow id hid hh _ ho hd =>
    -- a fresh message joins `held` and `handed` at the end
    have hW : id ∉ written s.trace := fun h =>
      hid (J.subset (List.mem_append_left _ (List.mem_eraseDups.2 h)))
    have : (s.held ++ [id]).removeAll (written s.trace) = s.held.removeAll (written s.trace) ++ [id] := by
      simp [List.removeAll, List.filter_append, hW]
    rw [ho, written_nil, List.append_nil, hh, hd, this, ← List.append_assoc]
    exact J.append (List.Sublist.refl _)
  | shrink rest hh _ hd hp =>
    have hsub : (step s e).held.Sublist s.held := hd ▸ hp.1.trans (List.sublist_append_right _ _)
    refine hh ▸ ((List.Sublist.refl _).append (hsub.filter _)).trans ?_
    rcases hs.frame with h0 | ⟨b, -, hw, ho⟩
    · rwa [h0, List.append_nil]
    · -- `b` is written: everything before it in `held` is pending, hence was written before
      have hb : b ∉ s.buffer ++ s.chan :=
        (List.nodup_cons.1 (List.nodup_append.1 (held_writing hw ▸ H.nodupH.sublist H.held_sub)).2.1).1
      rw [ho, written_frame, written_nil, held_writing hw]
      exact eraseDups_snoc_removeAll P.pendW hb ▸ held_writing hw ▸ J

theorem Reachable.orderInv {s : State} (h : Reachable s) : OrderInv s :=
  h.induct (by simp [OrderInv, init, State.held]) fun s e hr ih => orderInv_step s e hr.invH hr.invP ih

theorem order_trace {s : State} (h : Reachable s) {pre post : List Nat} {a b : Nat}
    (hsplit : s.handed = pre ++ b :: post) (ha : a ∈ pre) :
    FirstBefore (written s.trace) a b ∨ (a ∉ written s.trace ∧ a ∈ s.closed ∧ s.writing ≠ some a) := by
  have J := h.orderInv
  have hn := h.invH.nodupH
  unfold OrderInv at J
  rw [hsplit] at J hn
  by_cases hL : a ∈ (written s.trace).eraseDups ++ s.held.removeAll (written s.trace)
  · -- `a` and the first `b` both stand in the list of the invariant, in the order they have in `handed`
    refine .inl fun p q hW hp => ?_
    rw [hW, List.eraseDups_append, List.cons_removeAll, if_pos (by simpa using hp), List.eraseDups_cons,
      List.append_assoc, List.cons_append] at J hL
    exact List.mem_eraseDups.1 (mem_left_of_sublist J hn ha hL)
  · simp only [List.mem_append, List.mem_eraseDups, List.removeAll, List.mem_filter, not_or] at hL
    have hheld : a ∉ s.held := fun h => hL.2 ⟨h, by simpa using hL.1⟩
    refine .inr ⟨hL.1, Classical.byContradiction fun hcl => ?_, fun hw => hheld (held_writing hw ▸ by simp)⟩
    exact hheld (h.invH.keep a (hsplit ▸ List.mem_append_left _ ha) hcl fun hak => hL.1 (h.invP.ackW a hak))

end HS.RS
