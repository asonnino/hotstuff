import HotstuffModel.Proofs.Verify
import HotstuffModel.Proofs.Lists
/-!
Soundness of the aggregator: what is inside a maker, and that every certificate it returns
verifies.  Votes/timeouts are verified by `Core` before they are added.
-/
namespace HS

theorem QCMaker.append_ok {c : Committee} {m m' : QCMaker} {v : Vote} {r : Option QC}
    (h : m.append c v = .ok (m', r)) :
    v.author ∉ m.used ∧ ∃ w, m' = ⟨w, m.votes ++ [(v.author, v.sig)], v.author :: m.used⟩ ∧
      (c.quorum ≤ m.weight + c.stake v.author ∧ w = 0 ∧
          r = some ⟨v.hash, v.round, m.votes ++ [(v.author, v.sig)]⟩ ∨
        m.weight + c.stake v.author < c.quorum ∧ w = m.weight + c.stake v.author ∧ r = none) := by
  unfold QCMaker.append at h
  by_cases hu : m.used.contains v.author = true
  · rw [if_pos hu] at h; cases h
  · rw [if_neg hu] at h
    refine ⟨fun hm => hu (List.contains_iff_mem.mpr hm), ?_⟩
    by_cases hq : c.quorum ≤ m.weight + c.stake v.author
    · rw [if_pos hq] at h; cases h; exact ⟨_, rfl, .inl ⟨hq, rfl, rfl⟩⟩
    · rw [if_neg hq] at h; cases h; exact ⟨_, rfl, .inr ⟨Nat.lt_of_not_le hq, rfl, rfl⟩⟩

theorem TCMaker.append_ok {c : Committee} {m m' : TCMaker} {t : Timeout} {r : Option TC}
    (h : m.append c t = .ok (m', r)) :
    t.author ∉ m.used ∧
      ∃ w, m' = ⟨w, m.votes ++ [(t.author, t.sig, t.highQC.round)], t.author :: m.used⟩ ∧
        (c.quorum ≤ m.weight + c.stake t.author ∧ w = 0 ∧
            r = some ⟨t.round, m.votes ++ [(t.author, t.sig, t.highQC.round)]⟩ ∨
          m.weight + c.stake t.author < c.quorum ∧ w = m.weight + c.stake t.author ∧ r = none) := by
  unfold TCMaker.append at h
  by_cases hu : m.used.contains t.author = true
  · rw [if_pos hu] at h; cases h
  · rw [if_neg hu] at h
    refine ⟨fun hm => hu (List.contains_iff_mem.mpr hm), ?_⟩
    by_cases hq : c.quorum ≤ m.weight + c.stake t.author
    · rw [if_pos hq] at h; cases h; exact ⟨_, rfl, .inl ⟨hq, rfl, rfl⟩⟩
    · rw [if_neg hq] at h; cases h; exact ⟨_, rfl, .inr ⟨Nat.lt_of_not_le hq, rfl, rfl⟩⟩

theorem addVote_eq {c : Committee} {a a' : Aggregator} {v : Vote} {r : Option QC}
    (h : a.addVote c v = .ok (a', r)) :
    ∃ m', (a.getQ (v.round, v.hash)).append c v = .ok (m', r) ∧ a' = a.setQ (v.round, v.hash) m' := by
  unfold Aggregator.addVote at h
  split at h
  · cases h
  · rename_i m' r' appended
    cases h
    exact ⟨m', appended, rfl⟩

theorem addTimeout_eq {c : Committee} {a a' : Aggregator} {t : Timeout} {r : Option TC}
    (h : a.addTimeout c t = .ok (a', r)) :
    ∃ m', (a.getT t.round).append c t = .ok (m', r) ∧ a' = a.setT t.round m' := by
  unfold Aggregator.addTimeout at h
  split at h
  · cases h
  · rename_i m' r' appended
    cases h
    exact ⟨m', appended, rfl⟩

theorem addVote_some {c : Committee} {a a' : Aggregator} {v : Vote} {qc : QC}
    (h : a.addVote c v = .ok (a', some qc)) :
    qc.hash = v.hash ∧ qc.round = v.round ∧
      qc.votes = (a.getQ (v.round, v.hash)).votes ++ [(v.author, v.sig)] := by
  obtain ⟨m', happ, -⟩ := addVote_eq h
  obtain ⟨-, w, -, ⟨-, -, e⟩ | ⟨-, -, e⟩⟩ := QCMaker.append_ok happ <;> cases e
  exact ⟨rfl, rfl, rfl⟩

theorem addTimeout_some {c : Committee} {a a' : Aggregator} {t : Timeout} {tc : TC}
    (h : a.addTimeout c t = .ok (a', some tc)) :
    tc.round = t.round ∧ tc.votes = (a.getT t.round).votes ++ [(t.author, t.sig, t.highQC.round)] := by
  obtain ⟨m', happ, -⟩ := addTimeout_eq h
  obtain ⟨-, w, -, ⟨-, -, e⟩ | ⟨-, -, e⟩⟩ := TCMaker.append_ok happ <;> cases e
  exact ⟨rfl, rfl⟩

theorem addVote_votes {c : Committee} {a a' : Aggregator} {v : Vote} {r : Option QC}
    (h : a.addVote c v = .ok (a', r)) :
    a'.timeouts = a.timeouts ∧ ∀ k m, (k, m) ∈ a'.votes →
      (k, m) ∈ a.votes ∨ m.votes = (a.getQ (v.round, v.hash)).votes ++ [(v.author, v.sig)] := by
  obtain ⟨m', happ, rfl⟩ := addVote_eq h
  obtain ⟨-, w, rfl, -⟩ := QCMaker.append_ok happ
  exact ⟨rfl, fun k m hm => (mem_cons_filter hm).symm.imp_right fun e => by cases e; rfl⟩

theorem addTimeout_timeouts {c : Committee} {a a' : Aggregator} {t : Timeout} {r : Option TC}
    (h : a.addTimeout c t = .ok (a', r)) :
    a'.votes = a.votes ∧ ∀ k m, (k, m) ∈ a'.timeouts →
      (k, m) ∈ a.timeouts ∨ m.votes = (a.getT t.round).votes ++ [(t.author, t.sig, t.highQC.round)] := by
  obtain ⟨m', happ, rfl⟩ := addTimeout_eq h
  obtain ⟨-, w, rfl, -⟩ := TCMaker.append_ok happ
  exact ⟨rfl, fun k m hm => (mem_cons_filter hm).symm.imp_right fun e => by cases e; rfl⟩

theorem mem_getQ {a : Aggregator} {k : Nat × Digest} {x : Nat × Sig} (h : x ∈ (a.getQ k).votes) :
    ∃ m, (k, m) ∈ a.votes ∧ x ∈ m.votes :=
  getD_lookup_ind (P := fun m' => x ∈ m'.votes → ∃ m, (k, m) ∈ a.votes ∧ x ∈ m.votes)
    (fun h => absurd h List.not_mem_nil)
    (fun m hm hx => ⟨m, hm, hx⟩) h

theorem mem_getT {a : Aggregator} {r : Nat} {x : Nat × Sig × Nat} (h : x ∈ (a.getT r).votes) :
    ∃ m, (r, m) ∈ a.timeouts ∧ x ∈ m.votes :=
  getD_lookup_ind (P := fun m' => x ∈ m'.votes → ∃ m, (r, m) ∈ a.timeouts ∧ x ∈ m.votes)
    (fun h => absurd h List.not_mem_nil)
    (fun m hm hx => ⟨m, hm, hx⟩) h

theorem getT_used (a : Aggregator) (ρ : Nat) (P : Nat → Prop)
    (h : ∀ m, (ρ, m) ∈ a.timeouts → ∀ k ∈ m.used, P k) : ∀ k ∈ (a.getT ρ).used, P k :=
  getD_lookup_ind (P := fun m : TCMaker => ∀ k ∈ m.used, P k) (fun _ hk => absurd hk List.not_mem_nil) h

theorem addTimeout_used {c : Committee} {a a' : Aggregator} {t : Timeout} {r : Option TC}
    {P : Nat → Nat → Prop} (h : a.addTimeout c t = .ok (a', r))
    (hP : ∀ ρ m, (ρ, m) ∈ a.timeouts → ∀ k ∈ m.used, P ρ k) (ht : P t.round t.author) :
    ∀ ρ m, (ρ, m) ∈ a'.timeouts → ∀ k ∈ m.used, P ρ k := by
  obtain ⟨m', happ, rfl⟩ := addTimeout_eq h
  obtain ⟨-, w, rfl, -⟩ := TCMaker.append_ok happ
  intro ρ m hm k hk
  rcases List.mem_cons.mp hm with e | hm
  · cases e
    rcases List.mem_cons.mp hk with rfl | hk
    · exact ht
    · exact getT_used a t.round (P t.round) (hP t.round) k hk
  · exact hP ρ m (List.mem_filter.mp hm).1 k hk

/-- What both makers keep: the entries `votes`, each with `P`, are by distinct signers `key v`, who
are exactly the `used` ones and weigh at least `w`.  An entry by a new signer may be appended. -/
theorem tally_append {σ : Type} (c : Committee) {key : σ → Nat} {P : σ → Prop} {votes : List σ}
    {used : List Nat} {w : Nat} (x : σ) (nodup : (votes.map key).Nodup)
    (hused : ∀ k, k ∈ used ↔ k ∈ votes.map key) (valid : ∀ v ∈ votes, P v)
    (weight : w ≤ c.weight (votes.map key)) (hnew : key x ∉ used) (hx : P x) :
    ((votes ++ [x]).map key).Nodup ∧ (∀ k, k ∈ key x :: used ↔ k ∈ (votes ++ [x]).map key) ∧
      (∀ v ∈ votes ++ [x], P v) ∧ w + c.stake (key x) ≤ c.weight ((votes ++ [x]).map key) := by
  simp only [List.map_append, List.map_cons, List.map_nil, Committee.weight_append_single, List.mem_append,
    List.mem_cons, List.not_mem_nil, or_false, hused]
  refine ⟨List.nodup_append.mpr ⟨nodup, by simp, ?_⟩, fun k => or_comm, ?_, Nat.add_le_add_right weight _⟩
  · rintro a ha b hb rfl
    cases List.mem_singleton.mp hb
    exact hnew ((hused _).mpr ha)
  · rintro v (hv | rfl)
    · exact valid v hv
    · exact hx

structure QCMakerOK (c : Committee) (key : Nat × Digest) (m : QCMaker) : Prop where
  nodup : (m.votes.map Prod.fst).Nodup
  used : ∀ k, k ∈ m.used ↔ k ∈ m.votes.map Prod.fst
  valid : ∀ v ∈ m.votes, c.stake v.1 ≠ 0 ∧ v.2.valid (.vote key.2 key.1) v.1 = true
  weight : m.weight ≤ c.weight (m.votes.map Prod.fst)

structure TCMakerOK (c : Committee) (round : Nat) (m : TCMaker) : Prop where
  nodup : (m.votes.map (fun v => v.1)).Nodup
  used : ∀ k, k ∈ m.used ↔ k ∈ m.votes.map (fun v => v.1)
  valid : ∀ v ∈ m.votes, c.stake v.1 ≠ 0 ∧ v.2.1.valid (.timeout round v.2.2) v.1 = true
  weight : m.weight ≤ c.weight (m.votes.map (fun v => v.1))

theorem qcmaker_empty_ok (c : Committee) (key : Nat × Digest) : QCMakerOK c key {} :=
  ⟨.nil, fun _ => .rfl, List.forall_mem_nil _, Nat.le_refl 0⟩

theorem tcmaker_empty_ok (c : Committee) (r : Nat) : TCMakerOK c r {} :=
  ⟨.nil, fun _ => .rfl, List.forall_mem_nil _, Nat.le_refl 0⟩

theorem QCMakerOK.verify {c : Committee} {r : Nat} {d : Digest} {m : QCMaker} (hm : QCMakerOK c (r, d) m)
    (hq : c.quorum ≤ m.weight) : QC.verify c ⟨d, r, m.votes⟩ = .ok () :=
  (QC.verify_ok_iff c _).mpr ⟨hm.nodup, List.forall_mem_map.mpr fun v hv => (hm.valid v hv).1,
    Nat.le_trans hq hm.weight, fun v hv => (hm.valid v hv).2⟩

theorem TCMakerOK.verify {c : Committee} {r : Nat} {m : TCMaker} (hm : TCMakerOK c r m)
    (hq : c.quorum ≤ m.weight) : TC.verify c ⟨r, m.votes⟩ = .ok () :=
  (TC.verify_ok_iff c _).mpr ⟨hm.nodup, List.forall_mem_map.mpr fun v hv => (hm.valid v hv).1,
    Nat.le_trans hq hm.weight, fun v hv => (hm.valid v hv).2⟩

theorem QCMakerOK.append {c : Committee} {m m' : QCMaker} {v : Vote} {r : Option QC}
    (hm : QCMakerOK c (v.round, v.hash) m) (hv : v.verify c = .ok ()) (h : m.append c v = .ok (m', r)) :
    QCMakerOK c (v.round, v.hash) m' ∧ ∀ qc, r = some qc → qc.verify c = .ok () := by
  obtain ⟨hnew, w, rfl, hr⟩ := QCMaker.append_ok h
  obtain ⟨nodup, used, valid, weight⟩ := tally_append c (v.author, v.sig) (nodup := hm.nodup)
    (hused := hm.used) (valid := hm.valid) (weight := hm.weight) (hnew := hnew)
    (hx := (Vote.verify_ok_iff c v).mp hv)
  -- the maker before the weight is reset
  have full : QCMakerOK c (v.round, v.hash) ⟨m.weight + c.stake v.author, _, _⟩ :=
    ⟨nodup, used, valid, weight⟩
  rcases hr with ⟨hq, rfl, rfl⟩ | ⟨-, rfl, rfl⟩
  · exact ⟨⟨nodup, used, valid, Nat.zero_le _⟩, fun _ e => by cases e; exact full.verify hq⟩
  · exact ⟨full, nofun⟩

theorem TCMakerOK.append {c : Committee} {m m' : TCMaker} {t : Timeout} {r : Option TC}
    (hm : TCMakerOK c t.round m) (hv : t.verify c = .ok ()) (h : m.append c t = .ok (m', r)) :
    TCMakerOK c t.round m' ∧ ∀ tc, r = some tc → tc.verify c = .ok () := by
  obtain ⟨hnew, w, rfl, hr⟩ := TCMaker.append_ok h
  obtain ⟨hs, hsig, -⟩ := (Timeout.verify_ok_iff c t).mp hv
  obtain ⟨nodup, used, valid, weight⟩ := tally_append c (t.author, t.sig, t.highQC.round)
    (nodup := hm.nodup) (hused := hm.used) (valid := hm.valid) (weight := hm.weight) (hnew := hnew)
    (hx := ⟨hs, hsig⟩)
  have full : TCMakerOK c t.round ⟨m.weight + c.stake t.author, _, _⟩ := ⟨nodup, used, valid, weight⟩
  rcases hr with ⟨hq, rfl, rfl⟩ | ⟨-, rfl, rfl⟩
  · exact ⟨⟨nodup, used, valid, Nat.zero_le _⟩, fun _ e => by cases e; exact full.verify hq⟩
  · exact ⟨full, nofun⟩

/-- Every maker held by the aggregator is sound for its own key. -/
structure AggOK (c : Committee) (a : Aggregator) : Prop where
  votes : ∀ k m, (k, m) ∈ a.votes → QCMakerOK c k m
  timeouts : ∀ r m, (r, m) ∈ a.timeouts → TCMakerOK c r m

theorem aggOK_empty (c : Committee) : AggOK c {} :=
  ⟨fun _ _ h => absurd h List.not_mem_nil, fun _ _ h => absurd h List.not_mem_nil⟩

theorem getQ_ok (c : Committee) (a : Aggregator) (h : AggOK c a) (k : Nat × Digest) :
    QCMakerOK c k (a.getQ k) :=
  getD_lookup_ind (qcmaker_empty_ok c k) (h.votes k)

theorem getT_ok (c : Committee) (a : Aggregator) (h : AggOK c a) (r : Nat) :
    TCMakerOK c r (a.getT r) :=
  getD_lookup_ind (tcmaker_empty_ok c r) (h.timeouts r)

theorem aggOK_setQ (c : Committee) (a : Aggregator) (h : AggOK c a) (k : Nat × Digest) (m : QCMaker)
    (hm : QCMakerOK c k m) : AggOK c (a.setQ k m) :=
  ⟨fun k' m' hmem => (mem_cons_filter hmem).elim (fun e => by cases e; exact hm) (h.votes k' m'), h.timeouts⟩

theorem aggOK_setT (c : Committee) (a : Aggregator) (h : AggOK c a) (r : Nat) (m : TCMaker)
    (hm : TCMakerOK c r m) : AggOK c (a.setT r m) :=
  ⟨h.votes, fun r' m' hmem => (mem_cons_filter hmem).elim (fun e => by cases e; exact hm) (h.timeouts r' m')⟩

theorem aggOK_cleanup (c : Committee) (a : Aggregator) (h : AggOK c a) (r : Nat) :
    AggOK c (a.cleanup r) :=
  ⟨fun k m hmem => h.votes k m (List.mem_filter.mp hmem).1,
    fun r' m hmem => h.timeouts r' m (List.mem_filter.mp hmem).1⟩

theorem addVote_ok {c : Committee} {a a' : Aggregator} {v : Vote} {r : Option QC}
    (ha : AggOK c a) (hv : v.verify c = .ok ()) (h : a.addVote c v = .ok (a', r)) :
    AggOK c a' ∧ ∀ qc, r = some qc → qc.verify c = .ok () ∧ qc.hash = v.hash ∧ qc.round = v.round := by
  obtain ⟨m', happ, rfl⟩ := addVote_eq h
  obtain ⟨ok, hver⟩ := (getQ_ok c a ha _).append hv happ
  refine ⟨aggOK_setQ c a ha _ m' ok, ?_⟩
  rintro qc rfl
  exact ⟨hver qc rfl, (addVote_some h).1, (addVote_some h).2.1⟩

theorem addTimeout_ok {c : Committee} {a a' : Aggregator} {t : Timeout} {r : Option TC}
    (ha : AggOK c a) (hv : t.verify c = .ok ()) (h : a.addTimeout c t = .ok (a', r)) :
    AggOK c a' ∧ ∀ tc, r = some tc → tc.verify c = .ok () ∧ tc.round = t.round := by
  obtain ⟨m', happ, rfl⟩ := addTimeout_eq h
  obtain ⟨ok, hver⟩ := (getT_ok c a ha _).append hv happ
  refine ⟨aggOK_setT c a ha _ m' ok, ?_⟩
  rintro tc rfl
  exact ⟨hver tc rfl, (addTimeout_some h).1⟩

end HS
