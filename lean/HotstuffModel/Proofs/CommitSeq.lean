import HotstuffModel.Proofs.NodeInv5
/-!
How the commit channel of one node grows: every micro-step appends one (possibly empty) run of
deliveries that is parent-linked, lies above the old watermark and attaches at it.
-/
namespace HS
open Node

/-- The deliveries recorded in a history, newest first. -/
def commitsOf (h : List Out) : List Block :=
  h.filterMap (fun o => match o with | .commit b => some b | _ => none)

@[simp] theorem commitsOf_nil : commitsOf [] = [] := rfl
theorem commitsOf_cons_commit (b : Block) (h : List Out) : commitsOf (.commit b :: h) = b :: commitsOf h := rfl
theorem commitsOf_append (a b : List Out) : commitsOf (a ++ b) = commitsOf a ++ commitsOf b := by
  simp [commitsOf, List.filterMap_append]
theorem commitsOf_map_commit (l : List Block) : commitsOf (l.map Out.commit) = l := by
  induction l with
  | nil => rfl
  | cons a l ih => simp [commitsOf_cons_commit, ih]

theorem mem_commitsOf {h : List Out} {b : Block} : b ∈ commitsOf h ↔ Out.commit b ∈ h := by
  simp only [commitsOf, List.mem_filterMap]
  refine ⟨?_, fun h => ⟨_, h, rfl⟩⟩
  rintro ⟨o, ho, e⟩
  split at e
  · cases e; exact ho
  · cases e

theorem filter_isCommitOut (h : List Out) : h.filter Out.isCommitOut = (commitsOf h).map Out.commit := by
  induction h with
  | nil => rfl
  | cons o h ih => cases o <;> first | exact congrArg (_ :: ·) ih | exact ih

/-- Nothing delivered, watermark untouched. -/
structure CFrame (s s' : Node) : Prop where
  lc : s'.lastCommitted = s.lastCommitted
  cm : commitsOf s'.hist = commitsOf s.hist

theorem CFrame.refl (s : Node) : CFrame s s := ⟨rfl, rfl⟩
theorem CFrame.trans {a b c : Node} (h1 : CFrame a b) (h2 : CFrame b c) : CFrame a c :=
  ⟨h2.lc.trans h1.lc, h2.cm.trans h1.cm⟩

theorem cframe_moves {c : Committee} {e : Event} {cur cur' : Option Block} {s s' : Node}
    (m : Moves c e cur s cur' s') : CFrame s s' := by
  induction m with
  | nil => exact CFrame.refl _
  | cons m _ ih =>
    refine CFrame.trans ⟨m.lastCommitted, ?_⟩ ih
    obtain ⟨new, hist, _, _, noCommit⟩ := m.records
    have : commitsOf new = [] :=
      List.eq_nil_iff_forall_not_mem.2 fun b hb => noCommit b (mem_commitsOf.mp hb)
    rw [hist, commitsOf_append, this, List.nil_append]

/-- What one micro-step may add to the commit channel: a run `D` (oldest first, possibly empty). -/
structure CSpec (s s' : Node) : Prop where
  run : ∃ D : List Block,
    commitsOf s'.hist = D.reverse ++ commitsOf s.hist ∧
    (D = [] → s'.lastCommitted = s.lastCommitted) ∧
    (D ≠ [] → Linked D ∧ (∃ last, D.getLast? = some last ∧ s'.lastCommitted = last.round) ∧
      (∀ x ∈ D, s.lastCommitted < x.round ∧ x ≠ Block.genesis) ∧
      ∃ first rest, D = first :: rest ∧
        (first.round = s.lastCommitted + 1 ∨ ∃ p, IsParent p first ∧ p.round ≤ s.lastCommitted))

theorem CSpec.refl (s : Node) : CSpec s s :=
  ⟨⟨[], rfl, fun _ => rfl, fun hne => absurd rfl hne⟩⟩

/-- `CSpec` reads its two states through the watermark and the deliveries only. -/
theorem CSpec.frame {a a' b' b : Node} (h : CSpec a' b') (h1 : CFrame a a') (h2 : CFrame b' b) : CSpec a b := by
  constructor
  rw [h2.lc, h2.cm, ← h1.lc, ← h1.cm]
  exact h.run

theorem cspec_delivery {c : Committee} {cur : Option Block} {s s' : Node} (d : Delivery c cur s s')
    (hk : Keyed s) : CSpec s s' := by
  cases d with
  | mk b b1 b0 anc top stored new walk =>
    obtain ⟨linked, good, attach⟩ := deliver_spec c s hk b0 anc stored (Nat.lt_of_not_le new) walk
    rw [deliver_eq]
    refine ⟨⟨anc.reverse ++ [b0], ?_, fun e => absurd e (by simp), fun _ =>
      ⟨linked, ⟨b0, by simp, rfl⟩, fun x hx => (good x hx).above, attach⟩⟩⟩
    rw [commitsOf_append, commitsOf_map_commit]

theorem cspec_step (c : Committee) (s : Node) (e : Event) (h4 : Inv4 s) : CSpec s (step c s e) := by
  obtain ⟨_, _, _, _, a, d, b⟩ := step_steps c s e
  rcases d with rfl | d
  · exact (CSpec.refl _).frame (cframe_moves a) (cframe_moves b)
  · exact (cspec_delivery d (keyed_moves a h4.keyed)).frame (cframe_moves a) (cframe_moves b)

end HS
