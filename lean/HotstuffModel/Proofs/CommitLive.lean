import HotstuffModel.Proofs.NodeInv4
/-!
The handlers on the inputs they accept, one equation each (C04 has the inputs they reject), and from
them the "if" direction of the 2-chain commit rule (C05 is the "only if"): whenever a node processes a
proposal whose parent and grandparent it has stored and which are of consecutive rounds, it commits
the grandparent (if it had not already).  Together with `C06.vote_enabled` this is the good-case
progress step of C06: three consecutive certified proposals commit the first.
-/
namespace HS
open Node

theorem commit_reaches (c : Committee) (s : Node) (h : Inv4 s) (b : Block)
    (hb : b = Block.genesis ∨ ∃ d, (d, b) ∈ s.store) :
    ∃ s₁, commit c s b = (s₁, true) ∧ b.round ≤ s₁.lastCommitted ∧ s₁.round = s.round ∧
      s₁.lastVoted = s.lastVoted ∧ s₁.panic = s.panic := by
  rcases commit_stored c s h b hb with ⟨hle, e⟩ | ⟨anc, _, _, e⟩
  · exact ⟨s, e, hle, rfl, rfl, rfl⟩
  · refine ⟨_, e, ?_⟩
    rw [deliver_eq]
    exact ⟨Nat.le_refl _, rfl, rfl, rfl⟩

theorem getParent_congr (c : Committee) {s s' : Node} {b p : Block} (hs : s'.store = s.store)
    (h : (getParent c s b).2 = .found p) : getParent c s' b = (s', .found p) :=
  getParent_found_iff.2 (hs ▸ getParent_found_iff.1 (getParent_found h))

theorem handleProposal_accepts (c : Committee) (s : Node) {b : Block} (hl : b.author = c.leader b.round)
    (hv : b.verify c = .ok ()) :
    s.handleProposal c b = proposalTail c ((s.processQC b.qc).advanceTC b.tc) b := by
  simp [handleProposal, hl, hv]

theorem proposalTail_paid (c : Committee) {s : Node} {b : Block} (hpay : ∀ d ∈ b.payload, d ∈ s.avail) :
    proposalTail c s b = processBlock c s b := by
  have : b.payload.filter (fun d => !s.avail.contains d) = [] :=
    List.filter_eq_nil_iff.mpr fun d hd => by simp [hpay d hd]
  simp only [proposalTail, payloadVerify, this, List.isEmpty_nil, if_true]

theorem processBlock_found {c : Committee} {s : Node} {b b1 b0 : Block} (anc : Ancestors c s b b1 b0) :
    processBlock c s b = processBlockTail c s b0 b1 b := by
  simp [processBlock, anc.1, anc.2]

/-- THE GOOD CASE, as one equation.  A node with a parent-closed store (every reachable state:
`reachable_inv4`) receives a proposal `b` from the round's leader that passes `verify`, whose batches it
holds, whose parent `b1` and grandparent `b0` it has stored: `handle_proposal` comes down to the voting
stage, entered without panic in the round that `b`'s certificates lead to, with the vote watermark
untouched, and, if `b0` and `b1` are of consecutive rounds, with `b0` committed. -/
theorem handleProposal_good (c : Committee) (s : Node) (b b1 b0 : Block) (h4 : Inv4 s)
    (hl : b.author = c.leader b.round) (hv : b.verify c = .ok ())
    (hpay : ∀ d ∈ b.payload, d ∈ s.avail)
    (hp1 : (getParent c s b).2 = .found b1) (hp0 : (getParent c s b1).2 = .found b0) :
    ∃ s₁, s.handleProposal c b = voteStage c s₁ true b ∧
      s₁.round = ((s.processQC b.qc).advanceTC b.tc).round ∧ s₁.lastVoted = s.lastVoted ∧
      s₁.panic = none ∧ (b0.round + 1 = b1.round → b0.round ≤ s₁.lastCommitted) := by
  have core := (coreOnly_processQC s b.qc).trans (coreOnly_advanceTC _ b.tc)
  rw [handleProposal_accepts c s hl hv]
  generalize (s.processQC b.qc).advanceTC b.tc = s' at core ⊢
  have hp1 := getParent_congr c core.store hp1
  have hp0 := getParent_congr c core.store hp0
  have h4' : Inv4 s' := h4.congr (store := core.store) (panic := core.panic)
  rw [proposalTail_paid c fun d hd => core.avail ▸ hpay d hd, processBlock_found ⟨hp1, hp0⟩]
  unfold processBlockTail
  split
  · -- consecutive rounds: `commit(b0)` on the state with `b` stored
    have e := beforeCommit_eq s' b0 b1 b
    obtain ⟨s₁, hc, hlc, hr, hv, hp⟩ := commit_reaches c (beforeCommit s' b0 b1 b)
      (h4'.stores (parent := hp1) (store := by rw [e]) (panic := by rw [e])) b0
      ((getParent_found_iff.1 hp0).imp (·.2) fun h => ⟨_, by rw [e]; exact .tail _ (mem_of_lookup h.2)⟩)
    rw [hc]
    rw [e] at hr hv hp
    exact ⟨s₁, rfl, hr, hv.trans core.lastVoted, hp.trans h4'.noPanic, fun _ => hlc⟩
  · rename_i gap
    exact ⟨afterStore s' b0 b1 b, rfl, rfl, core.lastVoted, h4'.noPanic,
      fun h => absurd (by simpa using h) gap⟩

theorem handleTC_accepts (c : Committee) (s : Node) {tc : TC} (hv : tc.verify c = .ok ())
    (hr : ¬ Gen.tcStale tc.round s.round) :
    s.handleTC c tc = (s.advanceRound tc.round (.tc tc)).proposeIfLeader c (some tc) := by
  simp only [handleTC, hv, hr, if_false, proposeIfLeader]

theorem handleTimeout_certifies (c : Committee) (s : Node) {t : Timeout} {a : Aggregator} {tc : TC}
    (hr : ¬ Gen.timeoutStale t.round s.round) (hv : t.verify c = .ok ())
    (hadd : (s.processQC t.highQC).agg.addTimeout c t = .ok (a, some tc)) :
    s.handleTimeout c t =
      ((({ s.processQC t.highQC with agg := a } : Node).advanceRound tc.round (.tc tc)).emit
        (.tc tc)).proposeIfLeader c (some tc) := by
  simp only [handleTimeout, hr, if_false, hv, hadd, proposeIfLeader]

end HS
