import HotstuffModel.Model.QuorumWaiter
import HotstuffModel.Proofs.Weight
/-!
Proofs about the QuorumWaiter model (C12).

The state is read as the list `held s` of the batches the task holds, the one in service first.
A step first *delivers* its event to that list (`deliver`: a new batch is appended, a completion
marks one handler of the first batch with that id, in service or queued alike) and then *finishes*
a prefix of it, one output per finished batch (`step_held`).  `step` is analysed there and, for the
equations of single cases, in `Properties/C12` (`forward_at_crossing_step`): arrival order, the
invariant and everything said about forwards follow from `step_held` and from what `deliver`
preserves.
-/
namespace HS.QW
open HS.Q

def stakeSum (l : List H) : Nat := (l.map (·.stake)).sum

@[simp] theorem stakeSum_nil : stakeSum [] = 0 := rfl
@[simp] theorem stakeSum_cons (h : H) (l : List H) : stakeSum (h :: l) = h.stake + stakeSum l := by
  simp [stakeSum]

theorem doneStake_eq (hs : List H) : doneStake hs = stakeSum (hs.filter (·.done)) := rfl

theorem ackers_nil_doneStake (hs : List H) (h : ackers hs = []) : doneStake hs = 0 := by
  rw [doneStake, List.map_eq_nil_iff.1 h]
  rfl

theorem ackers_sublist_names (hs : List H) : (ackers hs).Sublist (hs.map (·.name)) :=
  List.filter_sublist.map _

def StakesOK (f : Nat → Nat) (hs : List H) : Prop := ∀ h ∈ hs, h.stake = f h.name

theorem stakeSum_weight (f : Nat → Nat) (l : List H) (h : StakesOK f l) :
    stakeSum l = weight f (l.map (·.name)) := by
  rw [stakeSum, weight, List.map_map, List.map_congr_left h]
  rfl

theorem ackers_weight (f : Nat → Nat) (hs : List H) (h : StakesOK f hs) :
    doneStake hs = weight f (ackers hs) :=
  stakeSum_weight f _ fun x hx => h x (List.mem_filter.mp hx).1

theorem mkHandlers_stakes (f : Nat → Nat) (names : List Nat) : StakesOK f (mkHandlers f names) := by
  intro h hh
  simp only [mkHandlers, List.mem_map] at hh
  obtain ⟨p, _, rfl⟩ := hh
  rfl

theorem mkHandlers_names (f : Nat → Nat) (names : List Nat) :
    (mkHandlers f names).map (·.name) = names := by
  simp only [mkHandlers, List.map_map]
  exact List.zipIdx_map_fst 0 names

theorem crossing_some (q : Nat) (t : Nat) (l p : List H) (h : crossing q t l = some p) :
    q ≤ t + stakeSum p ∧ p.Sublist l := by
  induction l generalizing t p with
  | nil => cases h
  | cons a l ih =>
    rw [crossing] at h
    split at h
    · next hq =>
      cases h
      exact ⟨hq, (List.nil_sublist l).cons_cons a⟩
    · obtain ⟨p', hc, rfl⟩ := Option.map_eq_some_iff.1 h
      obtain ⟨h1, h2⟩ := ih _ _ hc
      exact ⟨by rwa [stakeSum_cons, ← Nat.add_assoc], h2.cons_cons a⟩

theorem crossing_none (q : Nat) (t : Nat) (l : List H) (h : crossing q t l = none) :
    l = [] ∨ t + stakeSum l < q := by
  induction l generalizing t with
  | nil => exact .inl rfl
  | cons a l ih =>
    rw [crossing] at h
    split at h
    · cases h
    · next hq =>
      rw [stakeSum_cons, ← Nat.add_assoc]
      rcases ih _ (Option.map_eq_none_iff.1 h) with rfl | h1
      · exact .inr (Nat.lt_of_not_le hq)
      · exact .inr h1

section
variable {id i : Nat} {b : B} {hs hs' : List H} {x : H}

theorem mark_some (h : mark i hs = some (x, hs')) :
    ∃ l r, hs = l ++ x :: r ∧ hs' = l ++ { x with done := true } :: r ∧
      x.idx = i ∧ x.done = false := by
  induction hs generalizing hs' with
  | nil => cases h
  | cons a t ih =>
    rw [mark] at h
    split at h
    · next hc => cases h; exact ⟨[], t, rfl, rfl, hc⟩
    · split at h
      · next t' hm =>
        cases h
        obtain ⟨l, r, rfl, rfl, hx⟩ := ih hm
        exact ⟨a :: l, r, rfl, rfl, hx⟩
      · cases h

theorem mark_doneStake (h : mark i hs = some (x, hs')) :
    doneStake hs' = doneStake hs + x.stake := by
  obtain ⟨l, r, rfl, rfl, _, hd⟩ := mark_some h
  simp [doneStake, hd, Nat.add_assoc, Nat.add_comm x.stake]

theorem mark_names (h : mark i hs = some (x, hs')) : hs'.map (·.name) = hs.map (·.name) := by
  obtain ⟨l, r, rfl, rfl, _⟩ := mark_some h
  simp

theorem mark_forall {P : H → Prop} (h : mark i hs = some (x, hs'))
    (hx : x.idx = i → P x → P { x with done := true }) (hP : ∀ y ∈ hs, P y) : ∀ y ∈ hs', P y := by
  obtain ⟨l, r, rfl, rfl, hi, _⟩ := mark_some h
  rw [List.forall_mem_append, List.forall_mem_cons] at hP ⊢
  exact ⟨hP.1, hx hi hP.2.1, hP.2.2⟩

theorem markQueue_cons_ne (h : b.id ≠ id) (i : Nat) (bs : List B) :
    markQueue id i (b :: bs) = b :: markQueue id i bs := by
  rw [markQueue, if_neg h]

theorem markQueue_cons_none (h : mark i b.hs = none) (bs : List B) :
    markQueue b.id i (b :: bs) = b :: bs := by
  rw [markQueue, if_pos rfl, h]

theorem markQueue_cons_some (h : mark i b.hs = some (x, hs')) (bs : List B) :
    markQueue b.id i (b :: bs) = ⟨b.id, hs'⟩ :: bs := by
  rw [markQueue, if_pos rfl, h]

end

theorem markQueue_eq (id i : Nat) (bs : List B) :
    markQueue id i bs = bs ∨ ∃ l b r x hs', bs = l ++ b :: r ∧ b.id = id ∧
      mark i b.hs = some (x, hs') ∧ markQueue id i bs = l ++ ⟨b.id, hs'⟩ :: r := by
  induction bs with
  | nil => exact .inl rfl
  | cons b bs ih =>
    by_cases hid : b.id = id
    · subst hid
      cases hm : mark i b.hs with
      | none => exact .inl (markQueue_cons_none hm bs)
      | some r => exact .inr ⟨[], b, bs, r.1, r.2, rfl, rfl, hm, markQueue_cons_some hm bs⟩
    · rw [markQueue_cons_ne hid]
      rcases ih with h | ⟨l, b', r, x, hs', rfl, h1, h2, h3⟩
      · exact .inl (by rw [h])
      · exact .inr ⟨b :: l, b', r, x, hs', rfl, h1, h2, by rw [h3]; rfl⟩

def held (s : State) : List B := (s.cur.map fun c => ⟨c.id, c.hs⟩).toList ++ s.queue

/-- A completion looks for its batch in the whole list: in `step`, the case of the batch in service
is the head case of `markQueue`. -/
def deliver (f : Nat → Nat) : Ev → List B → List B
  | .batch id names, bs => bs ++ [⟨id, mkHandlers f names⟩]
  | .complete id i _, bs => markQueue id i bs

theorem deliver_ids (f : Nat → Nat) (e : Ev) (bs : List B) :
    (deliver f e bs).map (·.id) = bs.map (·.id) ++ arrivals [e] := by
  cases e with
  | batch id names => simp [deliver, arrivals]
  | complete id i a =>
    rcases markQueue_eq id i bs with h | ⟨l, b, r, x, hs', rfl, _, _, h⟩ <;>
      simp [deliver, arrivals, h]

theorem deliver_forall {P : B → Prop} {f : Nat → Nat} {e : Ev} {bs : List B}
    (hnew : ∀ id names, e = .batch id names → P ⟨id, mkHandlers f names⟩)
    (hmark : ∀ {id i hs x hs'} a, e = .complete id i a → mark i hs = some (x, hs') →
      P ⟨id, hs⟩ → P ⟨id, hs'⟩)
    (h : ∀ b ∈ bs, P b) : ∀ b ∈ deliver f e bs, P b := by
  cases e with
  | batch id names =>
    rw [deliver, List.forall_mem_append, List.forall_mem_singleton]
    exact ⟨h, hnew id names rfl⟩
  | complete id i a =>
    rw [deliver]
    rcases markQueue_eq id i bs with h' | ⟨l, b, r, x, hs', rfl, rfl, hm, h'⟩
    · rwa [h']
    · rw [List.forall_mem_append, List.forall_mem_cons] at h
      rw [h', List.forall_mem_append, List.forall_mem_cons]
      exact ⟨h.1, hmark a rfl hm h.2.1, h.2.2⟩

/-- What a forward counted: completed handlers of `hs` that hold a quorum together with own
stake.  (For the batch in service these are all completed handlers; for a batch taken from the
queue, the `crossing` prefix of them.) -/
def Counted (cfg : Cfg) (hs : List H) (ack : List Nat) : Prop :=
  ∃ p, p.Sublist (hs.filter (·.done)) ∧ ack = p.map (·.name) ∧ cfg.q ≤ cfg.own + stakeSum p

section
variable {cfg : Cfg} {hs : List H} {ack : List Nat} {fin : List B} {outs : List Out}

theorem counted_sublist (h : Counted cfg hs ack) : ack.Sublist (ackers hs) := by
  obtain ⟨p, hp, rfl, _⟩ := h
  exact hp.map _

theorem counted_quorum (h : Counted cfg hs ack) (hst : StakesOK cfg.stakeOf hs) :
    cfg.q ≤ cfg.own + weight cfg.stakeOf ack := by
  obtain ⟨p, hp, rfl, hq⟩ := h
  rwa [← stakeSum_weight _ _ fun x hx => hst x (List.mem_filter.1 (hp.subset hx)).1]

/-- `outs` are the outputs that finish the batches `fin`: one each, in order. -/
inductive Finished (cfg : Cfg) : List B → List Out → Prop
  | nil : Finished cfg [] []
  | forward {b ack fin outs} : Counted cfg b.hs ack → Finished cfg fin outs →
      Finished cfg (b :: fin) (.forward b.id ack :: outs)
  | gaveUp {b fin outs} : Finished cfg fin outs → Finished cfg (b :: fin) (.gaveUp b.id :: outs)

theorem finished_ids (h : Finished cfg fin outs) : outs.map Out.id = fin.map (·.id) := by
  induction h <;> simp [Out.id, *]

theorem finished_counted (h : Finished cfg fin outs) {id : Nat} (hm : .forward id ack ∈ outs) :
    ∃ b ∈ fin, b.id = id ∧ Counted cfg b.hs ack := by
  induction h with
  | nil => cases hm
  | forward hc _ ih =>
    rcases List.mem_cons.1 hm with hm | hm
    · cases hm; exact ⟨_, List.mem_cons_self, rfl, hc⟩
    · exact (ih hm).imp fun _ hb => ⟨List.mem_cons_of_mem _ hb.1, hb.2⟩
  | gaveUp _ ih =>
    rcases List.mem_cons.1 hm with hm | hm
    · cases hm
    · exact (ih hm).imp fun _ hb => ⟨List.mem_cons_of_mem _ hb.1, hb.2⟩

end

/-- The message being served is consistent with the handler flags and still below the threshold
(or nothing has been counted yet — own stake alone may already be a quorum). -/
def CurOK (cfg : Cfg) (c : Cur) : Prop :=
  c.total = cfg.own + doneStake c.hs ∧ (c.total < cfg.q ∨ ackers c.hs = []) ∧
  c.hs.all (·.done) = false ∧ StakesOK cfg.stakeOf c.hs

def Inv (cfg : Cfg) (s : State) : Prop :=
  (∀ c, s.cur = some c → CurOK cfg c) ∧ (s.cur = none → s.queue = []) ∧
  (∀ b ∈ s.queue, StakesOK cfg.stakeOf b.hs)

/-- `CurOK` without its clause on stakes. -/
def Ready (cfg : Cfg) (c : Cur) : Prop :=
  c.total = cfg.own + doneStake c.hs ∧ (c.total < cfg.q ∨ ackers c.hs = []) ∧
  c.hs.all (·.done) = false

/-- `Inv` without its clauses on stakes: what `step` itself needs and keeps. -/
def Waiting (cfg : Cfg) (s : State) : Prop :=
  (∀ c, s.cur = some c → Ready cfg c) ∧ (s.cur = none → s.queue = [])

theorem waiting_init (cfg : Cfg) : Waiting cfg init := ⟨nofun, fun _ => rfl⟩

theorem waiting_some {cfg : Cfg} {c : Cur} (h : Ready cfg c) (queue : List B) :
    Waiting cfg ⟨some c, queue⟩ :=
  ⟨fun _ hc => Option.some.inj hc ▸ h, nofun⟩

theorem inv_iff (cfg : Cfg) (s : State) :
    Inv cfg s ↔ Waiting cfg s ∧ ∀ b ∈ held s, StakesOK cfg.stakeOf b.hs := by
  obtain ⟨_ | c, queue⟩ := s
  · exact ⟨fun h => ⟨⟨nofun, h.2.1⟩, h.2.2⟩, fun h => ⟨nofun, h.1.2, h.2⟩⟩
  · refine ⟨fun h => ?_, fun h => ?_⟩
    · obtain ⟨h1, h2, h3, h4⟩ := h.1 c rfl
      exact ⟨waiting_some ⟨h1, h2, h3⟩ queue, List.forall_mem_cons.2 ⟨h4, h.2.2⟩⟩
    · obtain ⟨h1, h2, h3⟩ := h.1.1 c rfl
      obtain ⟨h4, h5⟩ := List.forall_mem_cons.1 h.2
      exact ⟨fun _ hc => Option.some.inj hc ▸ ⟨h1, h2, h3, h4⟩, nofun, h5⟩

theorem serve_cases (cfg : Cfg) (b : B) :
    (∃ ack, serve cfg.own cfg.q b = (none, [.forward b.id ack]) ∧ Counted cfg b.hs ack) ∨
    serve cfg.own cfg.q b = (none, [.gaveUp b.id]) ∨
    serve cfg.own cfg.q b = (some ⟨b.id, cfg.own + doneStake b.hs, b.hs⟩, []) ∧
      Ready cfg ⟨b.id, cfg.own + doneStake b.hs, b.hs⟩ := by
  unfold serve
  cases hc : crossing cfg.q cfg.own (b.hs.filter (·.done)) with
  | some p =>
    have hp := crossing_some _ _ _ _ hc
    exact .inl ⟨_, rfl, p, hp.2, rfl, hp.1⟩
  | none =>
    by_cases hall : b.hs.all (·.done) = true
    · exact .inr (.inl (if_pos hall))
    · refine .inr (.inr ⟨if_neg hall, rfl, ?_, eq_false_of_ne_true hall⟩)
      rcases crossing_none _ _ _ hc with h | h
      · exact .inr (congrArg (List.map _) h)
      · exact .inl h

theorem advance_held (cfg : Cfg) (bs : List B) :
    Waiting cfg ⟨(advance cfg.own cfg.q bs).1, (advance cfg.own cfg.q bs).2.1⟩ ∧
    ∃ fin, bs = fin ++ held ⟨(advance cfg.own cfg.q bs).1, (advance cfg.own cfg.q bs).2.1⟩ ∧
      Finished cfg fin (advance cfg.own cfg.q bs).2.2 := by
  induction bs with
  | nil => exact ⟨waiting_init cfg, [], rfl, .nil⟩
  | cons b bs ih =>
    obtain ⟨w, fin, e1, e2⟩ := ih
    rw [advance]
    rcases serve_cases cfg b with ⟨ack, h, hc⟩ | h | ⟨h, hr⟩ <;> rw [h]
    · exact ⟨w, b :: fin, congrArg _ e1, .forward hc e2⟩
    · exact ⟨w, b :: fin, congrArg _ e1, .gaveUp e2⟩
    · exact ⟨waiting_some hr bs, [], rfl, .nil⟩

theorem step_held (cfg : Cfg) (s : State) (e : Ev) (h : Waiting cfg s) :
    Waiting cfg (step cfg s e).1 ∧
    ∃ fin, deliver cfg.stakeOf e (held s) = fin ++ held (step cfg s e).1 ∧
      Finished cfg fin (step cfg s e).2 := by
  obtain ⟨cur, queue⟩ := s
  cases cur with
  | none =>
    cases h.2 rfl
    cases e with
    | batch id names => exact advance_held cfg _
    | complete id i a => exact ⟨h, [], rfl, .nil⟩
  | some c =>
    have hc := h.1 c rfl
    cases e with
    | batch id names => exact ⟨waiting_some hc _, [], rfl, .nil⟩
    | complete id i a =>
      by_cases hid : c.id = id
      · subst hid
        cases hm : mark i c.hs with
        | none =>
          simp only [step, hm, ↓reduceIte]
          exact ⟨h, [], markQueue_cons_none hm queue, .nil⟩
        | some r =>
          obtain ⟨x, hs'⟩ := r
          have hd := markQueue_cons_some (b := ⟨c.id, c.hs⟩) hm queue
          have ht : c.total + x.stake = cfg.own + doneStake hs' := by
            rw [mark_doneStake hm, hc.1, Nat.add_assoc]
          obtain ⟨w, fin, e1, e2⟩ := advance_held cfg queue
          simp only [step, hm, ↓reduceIte]
          by_cases hq : cfg.q ≤ c.total + x.stake
          · rw [if_pos hq]
            exact ⟨w, ⟨c.id, hs'⟩ :: fin, hd.trans (congrArg _ e1),
              .forward ⟨_, .refl _, rfl, ht ▸ hq⟩ e2⟩
          · rw [if_neg hq]
            by_cases hall : hs'.all (·.done) = true
            · rw [if_pos hall]
              exact ⟨w, ⟨c.id, hs'⟩ :: fin, hd.trans (congrArg _ e1), .gaveUp e2⟩
            · rw [if_neg hall]
              exact ⟨waiting_some ⟨ht, .inl (Nat.lt_of_not_le hq), eq_false_of_ne_true hall⟩ _,
                [], hd, .nil⟩
      · simp only [step, hid, ↓reduceIte]
        exact ⟨waiting_some hc _, [], markQueue_cons_ne hid i queue, .nil⟩

theorem inv_init (cfg : Cfg) : Inv cfg init := ⟨nofun, fun _ => rfl, nofun⟩

theorem inv_step (cfg : Cfg) (s : State) (e : Ev) (h : Inv cfg s) : Inv cfg (step cfg s e).1 := by
  obtain ⟨hw, hs⟩ := (inv_iff cfg s).1 h
  obtain ⟨hw', fin, e1, _⟩ := step_held cfg s e hw
  exact (inv_iff _ _).2 ⟨hw', fun b hb =>
    deliver_forall (P := fun b => StakesOK cfg.stakeOf b.hs) (fun _ _ _ => mkHandlers_stakes _ _)
      (fun _ _ hm => mark_forall hm fun _ hx => hx) hs b
      (e1 ▸ List.mem_append_right fin hb)⟩

theorem inv_run (cfg : Cfg) (s : State) (es : List Ev) (h : Inv cfg s) : Inv cfg (run cfg s es) := by
  induction es generalizing s with
  | nil => exact h
  | cons e es ih => exact ih _ (inv_step cfg s e h)

theorem outputs_cons (cfg : Cfg) (s : State) (e : Ev) (es : List Ev) :
    outputs cfg s (e :: es) = (step cfg s e).2 ++ outputs cfg (step cfg s e).1 es := by
  simp [outputs, trace]

theorem arrivals_cons (e : Ev) (es : List Ev) : arrivals (e :: es) = arrivals [e] ++ arrivals es := by
  cases e <;> simp [arrivals]

theorem mem_outputs {cfg : Cfg} {s : State} {es : List Ev} {o : Out} (h : o ∈ outputs cfg s es) :
    ∃ pre e post, es = pre ++ [e] ++ post ∧ o ∈ (step cfg (run cfg s pre) e).2 := by
  induction es generalizing s with
  | nil => cases h
  | cons e es ih =>
    rw [outputs_cons] at h
    rcases List.mem_append.1 h with h | h
    · exact ⟨[], e, es, rfl, h⟩
    · obtain ⟨pre, e', post, rfl, h'⟩ := ih h
      exact ⟨e :: pre, e', post, rfl, h'⟩

theorem fifo_run (cfg : Cfg) (s : State) (es : List Ev) (h : Waiting cfg s) :
    (outputs cfg s es).map Out.id ++ (held (run cfg s es)).map (·.id) =
      (held s).map (·.id) ++ arrivals es := by
  induction es generalizing s with
  | nil => simp [outputs, trace, run, arrivals]
  | cons e es ih =>
    obtain ⟨hw, fin, e1, e2⟩ := step_held cfg s e h
    -- FIFO: by `ih` the left side is the ids of the step's outputs, then of what is held after the
    -- step, then `arrivals es`.  The outputs have the ids of the finished prefix `fin` (`finished_ids`),
    -- and `fin ++ held (step s e)` is `deliver e (held s)` (`e1`): the ids of `held s`, then `e`'s
    -- arrival (`deliver_ids`).
    rw [outputs_cons, arrivals_cons, List.map_append, List.append_assoc, run, ih _ hw,
      ← List.append_assoc, finished_ids e2, ← List.map_append, ← e1, deliver_ids, List.append_assoc]

/-- The batch arrived with a `batch` event of the history that lists its handlers' names, each
handler at its index and with the stake `f` gives its name, and every completed handler has its
`complete` event in the history. -/
def Linked (f : Nat → Nat) (hist : List Ev) (b : B) : Prop :=
  ∃ names, Ev.batch b.id names ∈ hist ∧ b.hs.map (·.name) = names ∧
    ∀ h ∈ b.hs, names[h.idx]? = some h.name ∧ h.stake = f h.name ∧
      (h.done = true → ∃ a, Ev.complete b.id h.idx a ∈ hist)

section
variable {f : Nat → Nat} {hist hist' : List Ev} {b : B} {id i : Nat}

theorem linked_mono (hsub : ∀ e ∈ hist, e ∈ hist') (h : Linked f hist b) : Linked f hist' b := by
  obtain ⟨names, h1, h2, h3⟩ := h
  exact ⟨names, hsub _ h1, h2, fun x hx =>
    ⟨(h3 x hx).1, (h3 x hx).2.1, fun hd => ((h3 x hx).2.2 hd).imp fun _ => hsub _⟩⟩

theorem linked_new {names : List Nat} (f : Nat → Nat) (h : Ev.batch id names ∈ hist) :
    Linked f hist ⟨id, mkHandlers f names⟩ := by
  refine ⟨names, h, mkHandlers_names f names, fun x hx => ?_⟩
  simp only [mkHandlers, List.mem_map] at hx
  obtain ⟨p, hp, rfl⟩ := hx
  exact ⟨List.mem_zipIdx_iff_getElem?.1 hp, rfl, nofun⟩

theorem linked_mark {hs hs' : List H} {x : H} (a : Bool) (he : Ev.complete id i a ∈ hist)
    (hm : mark i hs = some (x, hs')) (h : Linked f hist ⟨id, hs⟩) : Linked f hist ⟨id, hs'⟩ := by
  obtain ⟨names, h1, h2, h3⟩ := h
  exact ⟨names, h1, (mark_names hm).trans h2,
    mark_forall hm (fun hi hx => ⟨hx.1, hx.2.1, fun _ => ⟨a, hi ▸ he⟩⟩) h3⟩

theorem deliver_linked {e : Ev} {bs : List B}
    (h : ∀ b ∈ bs, Linked f hist b) : ∀ b ∈ deliver f e bs, Linked f (hist ++ [e]) b :=
  have he : e ∈ hist ++ [e] := List.mem_append_right _ (List.mem_singleton_self e)
  deliver_forall (fun _ _ h' => linked_new _ (h' ▸ he)) (fun a h' => linked_mark a (h' ▸ he))
    fun b hb => linked_mono (fun _ => List.mem_append_left _) (h b hb)

theorem linked_stakes (h : Linked f hist b) : StakesOK f b.hs := by
  obtain ⟨_, _, _, h3⟩ := h
  exact fun x hx => (h3 x hx).2.1

theorem linked_ackers {ack : List Nat} (h : Linked f hist b) (hsub : ack.Sublist (ackers b.hs)) :
    ∀ n ∈ ack, ∃ names i a, Ev.batch b.id names ∈ hist ∧ names[i]? = some n ∧
      Ev.complete b.id i a ∈ hist := by
  intro n hn
  obtain ⟨names, h1, _, h3⟩ := h
  obtain ⟨x, hx, rfl⟩ := List.mem_map.1 (hsub.subset hn)
  obtain ⟨hx, hd⟩ := List.mem_filter.1 hx
  obtain ⟨a, ha⟩ := (h3 x hx).2.2 hd
  exact ⟨names, x.idx, a, h1, (h3 x hx).1, ha⟩

end

theorem run_linked (cfg : Cfg) (s : State) (hist es : List Ev) (hw : Waiting cfg s)
    (h : ∀ b ∈ held s, Linked cfg.stakeOf hist b) :
    Waiting cfg (run cfg s es) ∧ ∀ b ∈ held (run cfg s es), Linked cfg.stakeOf (hist ++ es) b := by
  induction es generalizing s hist with
  | nil => rw [List.append_nil]; exact ⟨hw, h⟩
  | cons e es ih =>
    obtain ⟨hw', fin, e1, _⟩ := step_held cfg s e hw
    rw [List.append_cons]
    exact ih _ _ hw' fun b hb => deliver_linked h b (e1 ▸ List.mem_append_right fin hb)

theorem forward_backed (cfg : Cfg) (pre : List Ev) (e : Ev) (id : Nat) (ack : List Nat)
    (h : Out.forward id ack ∈ (step cfg (run cfg init pre) e).2) :
    ∃ b, b.id = id ∧ Linked cfg.stakeOf (pre ++ [e]) b ∧ Counted cfg b.hs ack := by
  obtain ⟨hw, hl⟩ := run_linked cfg init [] pre (waiting_init cfg) nofun
  obtain ⟨_, fin, e1, e2⟩ := step_held cfg _ e hw
  obtain ⟨b, hb, hi, hc⟩ := finished_counted e2 h
  exact ⟨b, hi, deliver_linked hl b (e1 ▸ List.mem_append_left _ hb), hc⟩

end HS.QW
