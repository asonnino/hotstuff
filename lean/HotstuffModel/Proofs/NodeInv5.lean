import HotstuffModel.Proofs.NodeInv4
/-!
Inv5: what is committed and why (C05, C02), and payload availability (C08); what the ancestor
walk of `commit` returns (`commitWalk_spec`, `deliver_spec`).
-/
namespace HS
open Node

/-- The hash chain below a block digest: the digest itself, its parent, its grand-parent, … -/
def Digest.chain : Digest → List Digest
  | .block a r p par => .block a r p par :: par.chain
  | _ => []

/-- `x` is `b` or an ancestor of `b` (through the parent hashes that `b`'s digest commits to). -/
def AncOrSelf (x b : Block) : Prop := x.digest ∈ b.digest.chain

theorem self_mem_chain (b : Block) : b.digest ∈ b.digest.chain := by
  simp [Block.digest, Digest.chain]

theorem chain_suffix {d e : Digest} (h : d ∈ e.chain) : d.chain <:+ e.chain := by
  induction e with
  | block a r p par ih =>
    rcases List.mem_cons.mp h with rfl | h
    · exact List.suffix_refl _
    · exact (ih h).trans (List.suffix_cons _ _)
  | _ => cases h

theorem chain_length (d : Digest) : d.chain.length = digestDepth d := by
  induction d with
  | block a r p par ih => exact congrArg (· + 1) ih
  | _ => rfl

/-- `p` is what `get_parent_block` returns for `b`. -/
def IsParent (p b : Block) : Prop :=
  (b.qc.isGenesis = true ∧ p = Block.genesis) ∨ p.digest = b.qc.hash

/-- A list of blocks, each the parent of the one before it, starting below `top`. -/
def DescFrom : Block → List Block → Prop
  | _, [] => True
  | top, a :: l => a.digest = top.qc.hash ∧ DescFrom a l

def Sub (l : List Nat) (s : Node) : Prop := ∀ d ∈ l, d ∈ s.avail

structure Inv5 (s : Node) : Prop where
  chains : ∀ b0 b1 blk, Out.twoChain b0 b1 blk ∈ s.hist →
    b0.round + 1 = b1.round ∧ IsParent b1 blk ∧ IsParent b0 b1
  commits : ∀ x, Out.commit x ∈ s.hist → 0 < x.round ∧
    ∃ b0 b1 blk, Out.twoChain b0 b1 blk ∈ s.hist ∧ AncOrSelf x b0
  buffer : Sub s.buffer s
  blocksPay : ∀ b, b ∈ s.loopQ ++ s.syncPending ++ s.store.map Prod.snd → Sub b.payload s
  parkedPay : ∀ b m, (b, m) ∈ s.payPending → ∀ d, d ∈ b.payload → d ∈ s.avail ∨ d ∈ m
  votedPay : ∀ b, Out.voted b ∈ s.hist → Sub b.payload s
  commitPay : ∀ x, Out.commit x ∈ s.hist → Sub x.payload s

theorem afterStore_avail (s : Node) (b0 b1 b : Block) : (afterStore s b0 b1 b).avail = s.avail := rfl

theorem makeVote_avail (s : Node) (b : Block) : (s.makeVote b).1.avail = s.avail := by
  unfold makeVote; split
  · rfl
  · split <;> rfl

/-- The store is keyed by digest: the first clause of Inv4, which every move keeps unconditionally
(`keyed_move`). -/
def Keyed (s : Node) : Prop := ∀ d b, (d, b) ∈ s.store → b.digest = d

theorem isParent_of_found {c : Committee} {s : Node} (hk : Keyed s) {b p : Block}
    (hp : getParent c s b = (s, .found p)) : IsParent p b :=
  (getParent_found_iff.1 hp).imp id fun hl => hk _ p (mem_of_lookup hl.2)

/-- Oldest first: every block's parent hash is the digest of the block before it. -/
def Linked : List Block → Prop
  | [] => True
  | [_] => True
  | x :: y :: l => y.qc.hash = x.digest ∧ Linked (y :: l)

theorem digestDepth_block (b : Block) : digestDepth b.digest = digestDepth b.qc.hash + 1 := by
  simp [Block.digest, digestDepth]

/-- What `commit(top)` delivers: stored blocks above the watermark on the hash chain of `top`. -/
def WalkGood (s : Node) (top a : Block) : Prop :=
  (∃ d, (d, a) ∈ s.store) ∧ s.lastCommitted < a.round ∧ a.digest ∈ top.digest.chain

theorem WalkGood.above {s : Node} {top a : Block} (h : WalkGood s top a) :
    s.lastCommitted < a.round ∧ a ≠ Block.genesis :=
  ⟨h.2.1, fun e => absurd (e ▸ h.2.1 : s.lastCommitted < Block.genesis.round) (Nat.not_lt_zero _)⟩

/-- The ancestor walk from `top`, standing at `cur` with `acc` collected (newest last): `acc` read
backwards, with `top` at the end, is a linked list of good blocks that starts with `cur`.  The walk
keeps that, and it stops only for one of the code's two reasons (never because the fuel ran out: a
hash chain is no longer than the depth of its top digest). -/
theorem commitWalk_spec (c : Committee) (s : Node) (hk : Keyed s) {top : Block} {anc : List Block}
    {fuel : Nat} {cur : Block} {acc rest : List Block}
    (walk : commitWalk c s fuel cur acc = .done anc) (enough : digestDepth cur.digest < fuel)
    (shape : acc.reverse ++ [top] = cur :: rest) (linked : Linked (cur :: rest))
    (good : ∀ a ∈ cur :: rest, WalkGood s top a) :
    Linked (anc.reverse ++ [top]) ∧ (∀ a ∈ anc.reverse ++ [top], WalkGood s top a) ∧
    ∃ first rest', anc.reverse ++ [top] = first :: rest' ∧
      (first.round = s.lastCommitted + 1 ∨ ∃ p, IsParent p first ∧ p.round ≤ s.lastCommitted) := by
  induction fuel generalizing cur acc rest with
  | zero => omega
  | succ n ih =>
    have hcur := good cur (.head _)
    unfold commitWalk at walk
    split at walk
    · cases hp : (getParent c s cur).2 with
      | found a =>
        simp only [hp] at walk
        have hpar : IsParent a cur := isParent_of_found hk (getParent_found hp)
        split at walk
        · rename_i hle
          cases walk
          exact ⟨shape ▸ linked, shape ▸ good, cur, rest, shape, .inr ⟨a, hpar, hle⟩⟩
        · rename_i hr
          -- the parent is not genesis, so it is the block stored under the parent hash
          obtain ⟨hd, hst⟩ : a.digest = cur.qc.hash ∧ ∃ d, (d, a) ∈ s.store := by
            rcases getParent_found_iff.1 (getParent_found hp) with ⟨_, rfl⟩ | ⟨_, hl⟩
            · simp [Block.genesis] at hr
            · exact ⟨hk _ a (mem_of_lookup hl), _, mem_of_lookup hl⟩
          have hchain : a.digest ∈ top.digest.chain :=
            (chain_suffix hcur.2.2).subset (List.mem_cons_of_mem _ (hd ▸ self_mem_chain a))
          refine ih (cur := a) (acc := acc ++ [a]) (rest := cur :: rest) (walk := walk) (enough := ?_)
            (shape := by simp [shape]) (linked := ⟨hd.symm, linked⟩)
            (good := List.forall_mem_cons.2 ⟨⟨hst, Nat.lt_of_not_le hr, hchain⟩, good⟩)
          have := digestDepth_block cur
          rw [hd]; omega
      | parked | error => simp [hp] at walk
    · rename_i hstop
      cases walk
      exact ⟨shape ▸ linked, shape ▸ good, cur, rest, shape, .inl (by have := hcur.2.1; omega)⟩

/-- The run `anc.reverse ++ [b]` (oldest first) that `commit(b)` delivers when the walk ends normally. -/
theorem deliver_spec (c : Committee) (s : Node) (hk : Keyed s) (b : Block) (anc : List Block)
    (hb : b = Block.genesis ∨ ∃ d, (d, b) ∈ s.store) (hlt : s.lastCommitted < b.round)
    (hw : commitWalk c s (digestDepth b.digest + 1) b [] = .done anc) :
    Linked (anc.reverse ++ [b]) ∧ (∀ x ∈ anc.reverse ++ [b], WalkGood s b x) ∧
    ∃ first rest, anc.reverse ++ [b] = first :: rest ∧
      (first.round = s.lastCommitted + 1 ∨ ∃ p, IsParent p first ∧ p.round ≤ s.lastCommitted) := by
  refine commitWalk_spec c s hk (top := b) (cur := b) (acc := []) (rest := []) (walk := hw)
    (enough := Nat.lt_succ_self _) (shape := rfl) (linked := trivial)
    (good := List.forall_mem_singleton.2 ⟨hb.resolve_left ?_, hlt, self_mem_chain b⟩)
  rintro rfl
  exact Nat.not_lt_zero _ hlt

def Out.isCommitOut : Out → Bool
  | .commit _ => true
  | _ => false

theorem mem_ready {s : Node} {x : Block} : x ∈ s.loopQ ++ s.syncPending ++ s.store.map Prod.snd ↔
    x ∈ s.loopQ ∨ x ∈ s.syncPending ∨ ∃ d, (d, x) ∈ s.store := by
  simp

section
variable {c : Committee} {e : Event} {cur cur' : Option Block} {s s' : Node}

theorem keyed_move (m : Move c e cur s cur' s') (hk : Keyed s) : Keyed s' :=
  fun d x hx => (m.queues.store d x hx).elim (hk d x) (·.2.symm)

theorem keyed_moves (m : Moves c e cur s cur' s') (hk : Keyed s) : Keyed s' := by
  induction m with
  | nil => exact hk
  | cons m _ ih => exact ih (keyed_move m hk)

theorem Inv5.update (h : Inv5 s)
    (avail : ∀ d ∈ s.avail, d ∈ s'.avail) {new : List Out} (hist : s'.hist = new ++ s.hist)
    (chains : ∀ b0 b1 blk, Out.twoChain b0 b1 blk ∈ new →
      b0.round + 1 = b1.round ∧ IsParent b1 blk ∧ IsParent b0 b1)
    (commits : ∀ x, Out.commit x ∈ new → 0 < x.round ∧ Sub x.payload s ∧
      ∃ b0 b1 blk, Out.twoChain b0 b1 blk ∈ s'.hist ∧ AncOrSelf x b0)
    (voted : ∀ b, Out.voted b ∈ new → Sub b.payload s)
    (queues : Queues c e cur s s') (inFlight : ∀ b, cur = some b → Sub b.payload s) : Inv5 s' := by
  have sub : ∀ {l}, Sub l s → Sub l s' := fun hl d hd => avail d (hl d hd)
  have old : ∀ {o}, o ∈ s.hist → o ∈ s'.hist := fun ho => hist ▸ List.mem_append_right _ ho
  have ready : ∀ {x}, (x ∈ s.loopQ ∨ x ∈ s.syncPending ∨ ∃ d, (d, x) ∈ s.store) → Sub x.payload s :=
    fun hx => h.blocksPay _ (mem_ready.2 hx)
  refine ⟨?_, ?_, fun d hd => (queues.buffer d hd).elim (fun hd => avail d (h.buffer d hd)) (avail d),
    fun x hx => sub ?_, ?_, ?_, ?_⟩
  · intro b0 b1 blk hm
    exact (List.mem_append.mp (hist ▸ hm)).elim (chains b0 b1 blk) (h.chains b0 b1 blk)
  · intro x hm
    rcases List.mem_append.mp (hist ▸ hm) with hm | hm
    · exact ⟨(commits x hm).1, (commits x hm).2.2⟩
    · obtain ⟨pos, b0, b1, blk, hr, ha⟩ := h.commits x hm
      exact ⟨pos, b0, b1, blk, old hr, ha⟩
  · rcases mem_ready.1 hx with hx | hx | ⟨d, hx⟩
    · rcases queues.loopQ x hx with hx | hx | ⟨r, qc, tc, order, _, perm, rfl⟩ | ⟨l, hl, here⟩
      · exact ready (.inl hx)
      · exact ready (.inr (.inl hx))
      · exact fun d hd => h.buffer d ((isPerm_perm perm).mem_iff.1 hd)
      · refine fun d hd => (h.parkedPay x l hl d hd).elim id fun hd => ?_
        simpa using List.all_eq_true.mp here d hd
    · rcases queues.syncPending x hx with hx | hx | hx
      · exact ready (.inr (.inl hx))
      · exact inFlight x hx
      · exact ready (.inr (.inr hx))
    · exact (queues.store d x hx).elim (fun hx => ready (.inr (.inr ⟨d, hx⟩))) (inFlight x ·.1)
  · intro x l hm d hd
    rcases queues.payPending x l hm with hm | ⟨rfl, _⟩
    · exact (h.parkedPay x l hm d hd).imp (avail d) id
    · by_cases hda : d ∈ s.avail
      · exact .inl (avail d hda)
      · exact .inr (List.mem_filter.2 ⟨hd, by simpa using hda⟩)
  · intro b hm
    exact sub ((List.mem_append.mp (hist ▸ hm)).elim (voted b) (h.votedPay b))
  · intro x hm
    exact sub ((List.mem_append.mp (hist ▸ hm)).elim (fun hm => (commits x hm).2.1) (h.commitPay x))

theorem Sub.mono {l : List Nat} (h : Ext s s') (hl : Sub l s) : Sub l s' :=
  fun d hd => h.avail d (hl d hd)

theorem inv5_enter {b : Block} (m : Move c e none s (some b) s') (h : Inv5 s) : Sub b.payload s' := by
  cases m with
  | proposalEnters _ _ _ _ _ pay => exact pay
  | loopback _ rest _ hq => exact h.blocksPay b (mem_ready.2 (.inl (hq ▸ .head _)))

theorem inv5_move (m : Move c e cur s cur' s') (hk : Keyed s) (h : Inv5 s)
    (hB : ∀ b, cur = some b → Sub b.payload s) : Inv5 s' := by
  obtain ⟨new, hist, voted, chain, commit⟩ := m.records
  refine h.update (avail := (ext_move m).avail) (hist := hist) (chains := fun b0 b1 blk hm => ?_)
    (commits := fun x hx => absurd hx (commit x)) (voted := fun b hb => hB b (voted b hb))
    (queues := m.queues) (inFlight := hB)
  obtain ⟨_, anc, rule⟩ := chain b0 b1 blk hm
  exact ⟨by simpa using rule, isParent_of_found hk anc.1, isParent_of_found hk anc.2⟩

theorem inv5_delivery (d : Delivery c cur s s') (hk : Keyed s) (h : Inv5 s) : Inv5 s' := by
  cases d with
  | mk b b1 b0 anc top stored new walk =>
    obtain ⟨rest, top⟩ := top
    have good := (deliver_spec c s hk b0 anc stored (Nat.lt_of_not_le new) walk).2.1
    rw [deliver_eq]
    -- no queue moves; any event will do
    refine h.update (c := c) (e := .loopback) (cur := none) (avail := fun _ h => h) (hist := rfl)
      (chains := fun _ _ _ hm => ?_) (commits := ?_) (voted := fun _ hm => ?_) (queues := {})
      (inFlight := fun _ e => nomatch e)
    · obtain ⟨_, _, e⟩ := List.mem_map.mp hm; cases e
    · intro x hm
      obtain ⟨y, hy, e⟩ := List.mem_map.mp hm
      cases e
      obtain ⟨⟨d, hd⟩, above, chain⟩ := good x (List.mem_reverse.mp hy)
      refine ⟨by omega, h.blocksPay x (mem_ready.2 (.inr (.inr ⟨d, hd⟩))), b0, b1, b, ?_, chain⟩
      exact List.mem_append_right _ (top ▸ .head _)
    · obtain ⟨_, _, e⟩ := List.mem_map.mp hm; cases e

end

theorem inv5_step (c : Committee) (s : Node) (e : Event) (h4 : Inv4 s) (h : Inv5 s) :
    Inv5 (step c s e) :=
  have keyed_delivery : ∀ {cur s s'}, Delivery c cur s s' → Keyed s → Keyed s' := by
    intro _ _ _ d hk; cases d; rw [deliver_eq]; exact hk
  (step_induct (P := fun s => Keyed s ∧ Inv5 s) (B := fun s b => Sub b.payload s) Sub.mono
    (fun m h => inv5_enter m h.2) (fun m h hB => ⟨keyed_move m h.1, inv5_move m h.1 h.2 hB⟩)
    (fun d h _ => ⟨keyed_delivery d h.1, inv5_delivery d h.1 h.2⟩) ⟨h4.keyed, h⟩).2

theorem inv5_init (c : Committee) (name : Nat) : Inv5 (Node.init c name) := by
  unfold Node.init
  simp only []
  split <;> (constructor <;> simp [Sub])

end HS
