import HotstuffModel.Model.Node
import HotstuffModel.Proofs.AggregatorOK
/-!
The only copies of TC(r) are lost: the nodes still in round `r` (the set `Lo`) and the nodes already in
`r + 1` (the set `Hi`) exchange timeouts and fire their timers for ever without anyone moving, as soon as
neither set holds a quorum (N1 of C06):

* a node of `Hi` drops every timeout of round `r` (`timeout.round < self.round`: the first test of
  `handle_timeout`, read off where it is used, in `C06.lost_tc_leaves_nodes_stuck`);
* a node of `Lo` counts timeouts of round `r` only from `Lo`, and of round `r + 1` only from `Hi`,
  so neither tally reaches the quorum, and the high QCs carried by these timeouts are all older than
  `r`, so `process_qc` does not move the round either.
-/
namespace HS
open Node

/-- What reaches a stuck node: its own timer, and timeouts of rounds `≤ r + 1` whose high QC is older
than `r`, those of round `r` from `Lo` and those of round `r + 1` from `Hi`. -/
def StuckInput (r : Nat) (Lo Hi : List Nat) : Event → Prop
  | .timer => True
  | .msg (.timeout t) =>
    t.highQC.round < r ∧ t.round ≤ r + 1 ∧ (t.round = r → t.author ∈ Lo) ∧ (t.round = r + 1 → t.author ∈ Hi)
  | _ => False

/-- A node of `Lo`: in round `r`, high QC older than `r`, and its tallies of rounds `r` / `r + 1`
hold only members of `Lo` / `Hi`. -/
structure Behind (c : Committee) (r : Nat) (Lo Hi : List Nat) (s : Node) : Prop where
  round : s.round = r
  high : s.highQC.round < r
  self : s.name ∈ Lo
  ok : AggOK c s.agg
  lo : ∀ m, (r, m) ∈ s.agg.timeouts → ∀ k ∈ m.used, k ∈ Lo
  hi : ∀ m, (r + 1, m) ∈ s.agg.timeouts → ∀ k ∈ m.used, k ∈ Hi

/-- A set without a quorum: no duplicate-free list of its members weighs a quorum. -/
def NoQuorum (c : Committee) (S : List Nat) : Prop :=
  ∀ l : List Nat, l.Nodup → (∀ x ∈ l, x ∈ S) → c.weight l < c.quorum

theorem addTimeout_no_quorum {c : Committee} {a a' : Aggregator} {t : Timeout} {otc : Option TC}
    {S : List Nat} (ha : AggOK c a) (hS : NoQuorum c S)
    (hused : ∀ m, (t.round, m) ∈ a.timeouts → ∀ k ∈ m.used, k ∈ S) (hauth : t.author ∈ S)
    (h : a.addTimeout c t = .ok (a', otc)) : otc = none := by
  obtain ⟨m', happ, -⟩ := addTimeout_eq h
  have hm := getT_ok c a ha t.round
  obtain ⟨hnew, w, -, ⟨hq, -, -⟩ | ⟨-, -, e⟩⟩ := TCMaker.append_ok happ
  · -- the signers so far and the author are distinct members of `S`, and weigh a quorum
    obtain ⟨hnd, hu, -, hw⟩ := tally_append c (P := fun _ => True) (t.author, t.sig, t.highQC.round)
      (nodup := hm.nodup) (hused := hm.used) (valid := fun _ _ => trivial) (weight := hm.weight)
      (hnew := hnew) (hx := trivial)
    have hlt := hS _ hnd fun k hk =>
      (List.mem_cons.mp ((hu k).mpr hk)).elim (· ▸ hauth) (getT_used a _ _ hused k)
    exact absurd (Nat.le_trans hq hw) (Nat.not_le_of_lt hlt)
  · exact e

theorem processQC_behind (c : Committee) (r : Nat) (Lo Hi : List Nat) (s : Node) (qc : QC)
    (hb : Behind c r Lo Hi s) (h : qc.round < r) : Behind c r Lo Hi (s.processQC qc) := by
  have hst : Gen.advanceStale qc.round s.round := hb.round ▸ h
  unfold processQC advanceRound updateHighQC
  rw [if_pos hst]
  split
  · exact { hb with high := h }
  · exact hb

theorem handleTimeout_behind (c : Committee) (r : Nat) (Lo Hi : List Nat) (s : Node) (t : Timeout)
    (hLo : NoQuorum c Lo) (hHi : NoQuorum c Hi) (hb : Behind c r Lo Hi s)
    (he : StuckInput r Lo Hi (.msg (.timeout t))) : Behind c r Lo Hi (s.handleTimeout c t) := by
  obtain ⟨hq, hr, hlo, hhi⟩ := he
  unfold handleTimeout
  split
  · exact hb
  · rename_i hstale
    cases hv : t.verify c with
    | error e => exact hb
    | ok u =>
      cases u
      have hb1 := processQC_behind c r Lo Hi s t.highQC hb hq
      dsimp only
      cases hadd : (s.processQC t.highQC).agg.addTimeout c t with
      | error e => exact hb1
      | ok res =>
        obtain ⟨agg', otc⟩ := res
        -- the timeout is of round `r` or `r + 1`; `S` is the set that may sign for that round
        have hge : ¬ t.round < r := hb.round ▸ hstale
        obtain ⟨S, hS, hauth, hused⟩ : ∃ S, NoQuorum c S ∧ t.author ∈ S ∧
            ∀ m, (t.round, m) ∈ (s.processQC t.highQC).agg.timeouts → ∀ k ∈ m.used, k ∈ S := by
          by_cases h : t.round = r
          · exact ⟨Lo, hLo, hlo h, h ▸ hb1.lo⟩
          · have h : t.round = r + 1 := by omega
            exact ⟨Hi, hHi, hhi h, h ▸ hb1.hi⟩
        cases addTimeout_no_quorum hb1.ok hS hused hauth hadd
        have hu := addTimeout_used (P := fun ρ k => (ρ = r → k ∈ Lo) ∧ (ρ = r + 1 → k ∈ Hi)) hadd
          (fun ρ m hm k hk => ⟨fun e => hb1.lo m (e ▸ hm) k hk, fun e => hb1.hi m (e ▸ hm) k hk⟩) ⟨hlo, hhi⟩
        obtain ⟨aggOK', -⟩ := addTimeout_ok hb1.ok hv hadd
        exact ⟨hb1.round, hb1.high, hb1.self, aggOK',
          fun m hm k hk => (hu r m hm k hk).1 rfl, fun m hm k hk => (hu (r + 1) m hm k hk).2 rfl⟩

theorem step_behind (c : Committee) (r : Nat) (Lo Hi : List Nat) (s : Node) (e : Event)
    (hLo : NoQuorum c Lo) (hHi : NoQuorum c Hi) (hb : Behind c r Lo Hi s) (he : StuckInput r Lo Hi e) :
    Behind c r Lo Hi (step c s e) := by
  cases e with
  | timer =>
    show Behind c r Lo Hi (if s.panic.isSome then s else s.localTimeout c)
    split
    · exact hb
    · -- the node's own timeout is of round `r`, from a member of `Lo`, with the node's high QC; recording
      -- it touches `lastVoted` and `hist` only, which `Behind` does not look at: `{ hb with }` is `hb`
      -- with each field read at the state after recording
      exact handleTimeout_behind c r Lo Hi _ _ hLo hHi { hb with }
        ⟨hb.high,                            -- its high QC is older than `r`
          by simp [hb.round],                -- its round is `≤ r + 1`
          fun _ => hb.self,                  -- being of round `r`, it comes from `Lo`
          fun h => by simp [hb.round] at h⟩  -- it is not of round `r + 1`
  | msg m =>
    cases m with
    | timeout t =>
      show Behind c r Lo Hi (if s.panic.isSome then s else s.handleTimeout c t)
      split
      · exact hb
      · exact handleTimeout_behind c r Lo Hi s t hLo hHi hb he
    | _ => exact he.elim
  | _ => exact he.elim

theorem run_behind (c : Committee) (r : Nat) (Lo Hi : List Nat) (s : Node) (es : List Event)
    (hLo : NoQuorum c Lo) (hHi : NoQuorum c Hi) (hb : Behind c r Lo Hi s)
    (he : ∀ e ∈ es, StuckInput r Lo Hi e) : Behind c r Lo Hi (run c s es) :=
  List.foldlRecOn es (step c) hb fun s hs e hmem => step_behind c r Lo Hi s e hLo hHi hs (he e hmem)

end HS
