/-!
Weighted quorum intersection for arbitrary stake functions (core Lean only).
-/
namespace HS.Q

def weight (stake : Nat → Nat) (l : List Nat) : Nat := (l.map stake).sum

@[simp] theorem weight_nil (s : Nat → Nat) : weight s [] = 0 := rfl
@[simp] theorem weight_cons (s : Nat → Nat) (a : Nat) (l : List Nat) :
    weight s (a :: l) = s a + weight s l := by simp [weight]

theorem weight_append (s : Nat → Nat) (a b : List Nat) :
    weight s (a ++ b) = weight s a + weight s b := by
  simp [weight, List.sum_append]

theorem weight_perm (s : Nat → Nat) {a b : List Nat} (h : a.Perm b) : weight s a = weight s b :=
  (h.map s).sum_nat

theorem weight_erase (s : Nat → Nat) (a : Nat) (l : List Nat) (h : a ∈ l) :
    weight s l = s a + weight s (l.erase a) :=
  weight_perm s (List.perm_cons_erase h)

theorem weight_le_of_subset (s : Nat → Nat) :
    ∀ (l n : List Nat), l.Nodup → (∀ x ∈ l, x ∈ n) → weight s l ≤ weight s n := by
  intro l
  induction l with
  | nil => intro n _ _; exact Nat.zero_le _
  | cons a l ih =>
    intro n hnd hsub
    have hnd' := List.nodup_cons.mp hnd
    rw [weight_erase s a n (hsub a List.mem_cons_self), weight_cons]
    exact Nat.add_le_add_left (ih _ hnd'.2 fun x hx =>
      (List.mem_erase_of_ne fun (e : x = a) => hnd'.1 (e ▸ hx)).mpr (hsub x (List.mem_cons_of_mem _ hx))) _

theorem weight_filter_split (s : Nat → Nat) (p : Nat → Bool) (l : List Nat) :
    weight s l = weight s (l.filter p) + weight s (l.filter (fun x => !p x)) := by
  rw [← weight_append]
  exact (weight_perm s (List.filter_append_perm p l)).symm

/-- Inclusion–exclusion bound. -/
theorem weight_inter (s : Nat → Nat) (n a b : List Nat)
    (ha : a.Nodup) (hb : b.Nodup) (han : ∀ x ∈ a, x ∈ n) (hbn : ∀ x ∈ b, x ∈ n) :
    weight s a + weight s b ≤ weight s n + weight s (a.filter (fun x => decide (x ∈ b))) := by
  -- a = (a ∩ b) ++ (a \ b); (a \ b) ++ b is duplicate-free and inside n
  have hnd : ((a.filter (fun x => !decide (x ∈ b))) ++ b).Nodup :=
    List.nodup_append.mpr ⟨ha.filter _, hb, fun x hx y hy e => by
      simpa [e, hy] using (List.mem_filter.mp hx).2⟩
  have := weight_le_of_subset s _ n hnd fun x hx => (List.mem_append.mp hx).elim
    (fun h => han x (List.mem_filter.mp h).1) (hbn x)
  rw [weight_append] at this
  rw [weight_filter_split s (fun x => decide (x ∈ b)) a]
  omega

/-- Two quorums share a member outside any set of weight ≤ f, when 2q > total + f. -/
theorem quorum_intersection (s : Nat → Nat) (n a b : List Nat) (bad : Nat → Bool) (q f : Nat)
    (ha : a.Nodup) (hb : b.Nodup) (han : ∀ x ∈ a, x ∈ n) (hbn : ∀ x ∈ b, x ∈ n)
    (hn : n.Nodup) (hqa : q ≤ weight s a) (hqb : q ≤ weight s b)
    (hbad : weight s (n.filter bad) ≤ f) (hq : weight s n + f < 2 * q) :
    ∃ x, x ∈ a ∧ x ∈ b ∧ bad x = false := by
  have hint := weight_inter s n a b ha hb han hbn
  -- were every common member bad, the common part would sit inside the bad members of `n`
  apply Classical.byContradiction
  intro hno
  have := weight_le_of_subset s (a.filter fun x => decide (x ∈ b)) (n.filter bad) (ha.filter _) fun x hx => by
    have hx := List.mem_filter.mp hx
    refine List.mem_filter.mpr ⟨han x hx.1, ?_⟩
    cases hbx : bad x with
    | true => rfl
    | false => exact absurd ⟨x, hx.1, by simpa using hx.2, hbx⟩ hno
  omega

end HS.Q
