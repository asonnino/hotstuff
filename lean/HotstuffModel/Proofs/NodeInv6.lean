import HotstuffModel.Proofs.NodeExt
import HotstuffModel.Proofs.AggregatorOK
/-!
Inv6: provenance of signature tokens.  `E` is a fixed predicate on tokens ("legitimate");
if every token delivered from outside is in `E`, then every token inside a certificate the node
holds, votes on or commits by is in `E` or was signed by the node itself, as its own history records.
In the global model `E` is "the signer is Byzantine, or the signer's own history records signing it".
-/
namespace HS
open Node

/-- What the node's own history records as signed by itself. -/
def SelfSigned (hist : List Out) : Content → Prop
  | .vote d r => ∃ b, Out.voted b ∈ hist ∧ b.digest = d ∧ b.round = r
  | .timeout r hq => ∃ t, Out.timeout t ∈ hist ∧ t.round = r ∧ t.highQC.round = hq
  | .block d => ∃ b, Out.propose b ∈ hist ∧ b.digest = d
  | .junk _ => False

def QCtok (E : Sig → Prop) (q : QC) : Prop := ∀ v ∈ q.votes, E v.2
def TCtok (E : Sig → Prop) (t : TC) : Prop := ∀ v ∈ t.votes, E v.2.1
def OTCtok (E : Sig → Prop) (t : Option TC) : Prop := ∀ x, t = some x → TCtok E x
def BlockTok (E : Sig → Prop) (b : Block) : Prop := QCtok E b.qc ∧ OTCtok E b.tc

def MsgTok (E : Sig → Prop) : Msg → Prop
  | .propose b => BlockTok E b
  | .vote v => E v.sig
  | .timeout t => E t.sig ∧ QCtok E t.highQC
  | .tc t => TCtok E t

def EventTok (E : Sig → Prop) : Event → Prop
  | .msg m => MsgTok E m
  | _ => True

structure Inv6 (E : Sig → Prop) (s : Node) : Prop where
  hq : QCtok E s.highQC
  aggV : ∀ k m, (k, m) ∈ s.agg.votes → ∀ v ∈ m.votes, E v.2
  aggT : ∀ r m, (r, m) ∈ s.agg.timeouts → ∀ v ∈ m.votes, E v.2.1
  blocks : ∀ b, b ∈ s.pendingBlocks → BlockTok E b
  makes : ∀ r qc tc, PMsg.make r qc tc ∈ s.propQ → QCtok E qc ∧ OTCtok E tc
  voted : ∀ b, Out.voted b ∈ s.hist → BlockTok E b
  chains : ∀ b0 b1 blk, Out.twoChain b0 b1 blk ∈ s.hist →
    BlockTok E blk ∧ (b1 = Block.genesis ∨ BlockTok E b1)

theorem voteStage_name (c : Committee) (s : Node) (ok : Bool) (b : Block) :
    (voteStage c s ok b).name = s.name :=
  (ext_voteStage c s ok b).name

theorem genesis_qctok (E : Sig → Prop) : QCtok E QC.genesis := fun _ hv => nomatch hv

theorem selfSigned_mono {h h' : List Out} (hs : ∀ o ∈ h, o ∈ h') (cnt : Content)
    (hc : SelfSigned h cnt) : SelfSigned h' cnt := by
  cases cnt with
  | vote | timeout => obtain ⟨x, hx, h1, h2⟩ := hc; exact ⟨x, hs _ hx, h1, h2⟩
  | block d => obtain ⟨b, hb, h1⟩ := hc; exact ⟨b, hs _ hb, h1⟩
  | junk n => exact hc

theorem BlockTok.mono {E E' : Sig → Prop} (hE : ∀ sig, E sig → E' sig) {b : Block} (h : BlockTok E b) :
    BlockTok E' b :=
  ⟨fun v hv => hE _ (h.1 v hv), fun x hx v hv => hE _ (h.2 x hx v hv)⟩

theorem Inv6.mono {E E' : Sig → Prop} {s : Node} (h : Inv6 E s) (hE : ∀ sig, E sig → E' sig) :
    Inv6 E' s :=
  ⟨fun v hv => hE _ (h.hq v hv), fun k m hm v hv => hE _ (h.aggV k m hm v hv),
    fun r m hm v hv => hE _ (h.aggT r m hm v hv), fun b hb => (h.blocks b hb).mono hE,
    fun r qc tc hm => ⟨fun v hv => hE _ ((h.makes r qc tc hm).1 v hv),
      fun x hx v hv => hE _ ((h.makes r qc tc hm).2 x hx v hv)⟩,
    fun b hb => (h.voted b hb).mono hE,
    fun b0 b1 blk hm => ⟨(h.chains b0 b1 blk hm).1.mono hE, (h.chains b0 b1 blk hm).2.imp id (·.mono hE)⟩⟩

/-- A token is good for the node `s`: it is in `E`, or it is the node's own and its history records
the signing. -/
def Tok (E : Sig → Prop) (s : Node) (sig : Sig) : Prop :=
  E sig ∨ (sig.signer = s.name ∧ SelfSigned s.hist sig.content)

theorem Tok.mono {E : Sig → Prop} {s s' : Node} (h : Ext s s') (sig : Sig) (ht : Tok E s sig) :
    Tok E s' sig :=
  ht.imp id fun ⟨hn, hs⟩ => ⟨hn.trans h.name.symm, selfSigned_mono h.hist_mem _ hs⟩

section
variable {F : Sig → Prop} {s s' : Node}

theorem Inv6.update (h : Inv6 F s) (highQC : s'.highQC = s.highQC := by exact rfl)
    (agg : s'.agg = s.agg := by exact rfl) {new : List Out} (hist : s'.hist = new ++ s.hist)
    (voted : ∀ b, Out.voted b ∈ new → BlockTok F b)
    (chains : ∀ b0 b1 blk, Out.twoChain b0 b1 blk ∈ new → BlockTok F blk ∧ (b1 = Block.genesis ∨ BlockTok F b1))
    (blocks : ∀ b ∈ s'.pendingBlocks, b ∈ s.pendingBlocks ∨ BlockTok F b := by exact fun _ hb => .inl hb)
    (msgs : ∀ r qc tc, PMsg.make r qc tc ∈ s'.propQ →
      PMsg.make r qc tc ∈ s.propQ ∨ (QCtok F qc ∧ OTCtok F tc) := by exact fun _ _ _ hm => .inl hm) :
    Inv6 F s' :=
  ⟨highQC ▸ h.hq, agg ▸ h.aggV, agg ▸ h.aggT, fun b hb => (blocks b hb).elim (h.blocks b) id,
    fun r qc tc hm => (msgs r qc tc hm).elim (h.makes r qc tc) id,
    fun b hb => (List.mem_append.mp (hist ▸ hb)).elim (voted b) (h.voted b),
    fun b0 b1 blk hm => (List.mem_append.mp (hist ▸ hm)).elim (chains b0 b1 blk) (h.chains b0 b1 blk)⟩

theorem Inv6.coreOnly (h : Inv6 F s) (highQC : s'.highQC = s.highQC := by exact rfl)
    (agg : s'.agg = s.agg := by exact rfl) {new : List Out} (hist : s'.hist = new ++ s.hist)
    (outs : ∀ o ∈ new, o.isCore = true) (blocks : s'.pendingBlocks = s.pendingBlocks := by exact rfl)
    (msgs : s'.propQ = s.propQ := by exact rfl) : Inv6 F s' :=
  h.update (highQC := highQC) (agg := agg) (hist := hist) (voted := fun _ hb => nomatch outs _ hb)
    (chains := fun _ _ _ hb => nomatch outs _ hb) (blocks := fun _ hb => .inl (blocks ▸ hb))
    (msgs := fun _ _ _ hm => .inl (msgs ▸ hm))

/- For a variable `s`: at a use site with a large state `rfl` would compare `x.emit o` with `x`
field by field. -/
theorem Inv6.emit (h : Inv6 F s) {o : Out} (ho : o.isCore = true) : Inv6 F (s.emit o) :=
  h.coreOnly (new := [o]) (hist := rfl) (outs := List.forall_mem_singleton.2 ho)

theorem inv6_setAgg (h : Inv6 F s) {a : Aggregator}
    (hv : ∀ k m, (k, m) ∈ a.votes → (k, m) ∈ s.agg.votes ∨ ∀ v ∈ m.votes, F v.2)
    (ht : ∀ r m, (r, m) ∈ a.timeouts → (r, m) ∈ s.agg.timeouts ∨ ∀ v ∈ m.votes, F v.2.1) :
    Inv6 F { s with agg := a } :=
  { h with aggV := fun k m hm => (hv k m hm).elim (h.aggV k m) id
           aggT := fun r m hm => (ht r m hm).elim (h.aggT r m) id }

theorem inv6_setHighQC (h : Inv6 F s) {qc : QC} (hq : QCtok F qc) : Inv6 F { s with highQC := qc } :=
  { h with hq := hq }

theorem inv6_advanceRound (r : Nat) (ev : Evidence) (h : Inv6 F s) : Inv6 F (s.advanceRound r ev) :=
  advanceRound_cases (fun _ => h) fun _ =>
    -- `cleanup` drops makers; the round change is recorded
    (inv6_setAgg h (fun _ _ hm => .inl (List.mem_filter.mp hm).1)
      fun _ _ hm => .inl (List.mem_filter.mp hm).1).coreOnly (new := [_]) (hist := rfl)
      (outs := List.forall_mem_singleton.2 rfl)

theorem inv6_processQC (qc : QC) (h : Inv6 F s) (hq : QCtok F qc) : Inv6 F (s.processQC qc) :=
  have h := inv6_advanceRound qc.round (.qc qc) h
  updateHighQC_cases (fun _ => h) fun _ => inv6_setHighQC h hq

theorem inv6_proposeIfLeader (c : Committee) (tc : Option TC) (h : Inv6 F s) (htc : OTCtok F tc) :
    Inv6 F (s.proposeIfLeader c tc) := by
  refine proposeIfLeader_cases h fun _ => ?_
  refine h.update (s' := s.generateProposal tc) (new := [_]) (hist := rfl) (voted := by simp) (chains := by simp)
    (msgs := fun r qc tc' hm => ?_)
  refine (List.mem_append.mp hm).imp id fun hm => ?_
  cases List.mem_singleton.mp hm
  exact ⟨h.hq, htc⟩

theorem inv6_addVote {c : Committee} {v : Vote} {a : Aggregator} {r : Option QC} (h : Inv6 F s)
    (hv : F v.sig) (add : s.agg.addVote c v = .ok (a, r)) :
    Inv6 F { s with agg := a } ∧ ∀ qc, r = some qc → QCtok F qc := by
  have old : ∀ x ∈ (s.agg.getQ (v.round, v.hash)).votes ++ [(v.author, v.sig)], F x.2 := by
    intro x hx
    rcases mem_snoc hx with hx | rfl
    · obtain ⟨m, hm, hx⟩ := mem_getQ hx
      exact h.aggV _ m hm x hx
    · exact hv
  obtain ⟨ht, hvs⟩ := addVote_votes add
  refine ⟨inv6_setAgg h (fun k m hm => (hvs k m hm).imp id fun e v hv => old v (by rw [← e]; exact hv))
    fun _ _ hm => .inl (ht ▸ hm), ?_⟩
  rintro qc rfl
  exact fun v hv => old v ((addVote_some add).2.2 ▸ hv)

theorem inv6_addTimeout {c : Committee} {t : Timeout} {a : Aggregator} {r : Option TC} (h : Inv6 F s)
    (hv : F t.sig) (add : s.agg.addTimeout c t = .ok (a, r)) :
    Inv6 F { s with agg := a } ∧ ∀ tc, r = some tc → TCtok F tc := by
  have old : ∀ x ∈ (s.agg.getT t.round).votes ++ [(t.author, t.sig, t.highQC.round)], F x.2.1 := by
    intro x hx
    rcases mem_snoc hx with hx | rfl
    · obtain ⟨m, hm, hx⟩ := mem_getT hx
      exact h.aggT _ m hm x hx
    · exact hv
  obtain ⟨hv', hts⟩ := addTimeout_timeouts add
  refine ⟨inv6_setAgg h (fun _ _ hm => .inl (hv' ▸ hm))
    fun k m hm => (hts k m hm).imp id fun e v hv => old v (by rw [← e]; exact hv), ?_⟩
  rintro tc rfl
  exact fun v hv => old v ((addTimeout_some add).2 ▸ hv)

end

theorem VoteSrc.tok {E : Sig → Prop} {e : Event} {s : Node} {v : Vote} (hev : EventTok E e)
    (src : VoteSrc e s v) : Tok E s v.sig := by
  rcases src with rfl | ⟨b, hb, rfl⟩
  · exact .inl hev
  · exact .inr ⟨rfl, b, hb, rfl, rfl⟩

theorem TimeoutSrc.tok {E : Sig → Prop} {e : Event} {s : Node} {t : Timeout} (hev : EventTok E e)
    (h : Inv6 (Tok E s) s) (src : TimeoutSrc e s t) : Tok E s t.sig ∧ QCtok (Tok E s) t.highQC := by
  rcases src with rfl | ⟨_, ht, rfl⟩
  · exact ⟨.inl hev.1, fun v hv => .inl (hev.2 v hv)⟩
  · exact ⟨.inr ⟨rfl, _, ht, rfl, rfl⟩, h.hq⟩

section
variable {E : Sig → Prop} {c : Committee} {e : Event} {cur cur' : Option Block} {s s' : Node}

theorem inv6_cert (m : CertMove c e s s') (hev : EventTok E e) (h : Inv6 (Tok E s) s) :
    Inv6 (Tok E s') s' := by
  refine Inv6.mono ?_ (Tok.mono (ext_cert m))
  cases m with
  | voteCounted v a src _ _ add => exact (inv6_addVote h (src.tok hev) add).1
  | voteCertifies v a qc src _ _ add =>
    have := inv6_addVote h (src.tok hev) add
    exact inv6_proposeIfLeader c none (inv6_processQC qc this.1 (this.2 qc rfl)) (fun _ e => nomatch e)
  | timeoutSeen t src => exact inv6_processQC _ h (src.tok hev h).2
  | timeoutCounted t a src _ _ add =>
    have tok := src.tok hev h
    exact (inv6_addTimeout (inv6_processQC _ h tok.2) tok.1 add).1
  | timeoutCertifies t a tc src _ _ add =>
    have tok := src.tok hev h
    have := inv6_addTimeout (inv6_processQC _ h tok.2) tok.1 add
    exact inv6_proposeIfLeader c (some tc) ((inv6_advanceRound tc.round (.tc tc) this.1).emit rfl)
      (fun _ e => Option.some.inj e ▸ this.2 tc rfl)
  | tcSeen tc he =>
    subst he
    exact inv6_proposeIfLeader c (some tc) (inv6_advanceRound _ _ h)
      (fun _ e => Option.some.inj e ▸ fun v hv => .inl (hev v hv))
  | proposalCerts b he =>
    subst he
    have := inv6_processQC b.qc h (fun v hv => .inl (hev.1 v hv))
    exact advanceTC_cases this fun _ _ => inv6_advanceRound _ _ this

theorem inv6_enter {b : Block} (m : Move c e none s (some b) s') (hev : EventTok E e)
    (h : Inv6 (Tok E s) s) : BlockTok (Tok E s') b := by
  cases m with
  | proposalEnters _ he => subst he; exact BlockTok.mono (fun _ => .inl) hev
  | loopback _ rest _ hq => exact h.blocks b (mem_pendingBlocks.2 (.inl (hq ▸ .head _)))

theorem inv6_move (m : Move c e cur s cur' s') (hev : EventTok E e) (h : Inv6 (Tok E s) s)
    (hB : ∀ b, cur = some b → BlockTok (Tok E s) b) : Inv6 (Tok E s') s' := by
  rcases m.quiet with mc | q
  · exact inv6_cert mc hev h
  refine Inv6.mono ?_ (Tok.mono (ext_move m))
  obtain ⟨new, hist, voted, chain, _⟩ := m.records
  have stored : ∀ {d x}, (d, x) ∈ s.store → BlockTok (Tok E s) x :=
    fun hx => h.blocks _ (mem_pendingBlocks.2 (.inr (.inr (.inr ⟨_, hx⟩))))
  refine h.update (highQC := q.highQC) (agg := q.agg) (hist := hist) (voted := fun b hb => hB b (voted b hb))
    (chains := ?_) (blocks := ?_) (msgs := ?_)
  · intro b0 b1 blk hm
    obtain ⟨hc, anc, _⟩ := chain b0 b1 blk hm
    exact ⟨hB blk hc, (getParent_found_iff.1 anc.1).imp (·.2) fun h => stored (mem_of_lookup h.2)⟩
  · intro x hx
    refine (m.blocks x hx).imp id ?_
    rintro (hx | ⟨he, _⟩ | ⟨r, qc, tc, order, hm, rfl⟩)
    · exact hB x hx
    · subst he; exact BlockTok.mono (fun _ => .inl) hev
    · exact h.makes r qc tc hm
  · intro r qc tc hm
    exact (q.propQ _ hm).imp id fun ⟨_, e⟩ => nomatch e

theorem inv6_delivery (d : Delivery c cur s s') (h : Inv6 (Tok E s) s) : Inv6 (Tok E s') s' := by
  refine Inv6.mono ?_ (Tok.mono (ext_delivery d))
  cases d with
  | mk b b1 b0 anc =>
    rw [deliver_eq]
    refine h.update (hist := rfl) (voted := fun _ hm => ?_) (chains := fun _ _ _ hm => ?_) <;>
    · obtain ⟨_, _, e⟩ := List.mem_map.mp hm; cases e

end

theorem inv6_step {E : Sig → Prop} (c : Committee) (s : Node) (e : Event) (hev : EventTok E e)
    (h : Inv6 (Tok E s) s) : Inv6 (Tok E (step c s e)) (step c s e) :=
  step_induct (P := fun s => Inv6 (Tok E s) s) (B := fun s => BlockTok (Tok E s))
    (fun ext hb => hb.mono (Tok.mono ext)) (fun m h => inv6_enter m hev h)
    (fun m h hB => inv6_move m hev h hB) (fun d h _ => inv6_delivery d h) h

theorem inv6_init (E : Sig → Prop) (c : Committee) (name : Nat) : Inv6 E (Node.init c name) :=
  init_eq c name ▸ inv6_proposeIfLeader c none
    ⟨genesis_qctok E, fun _ _ h => (nomatch h), fun _ _ h => (nomatch h), fun _ h => (nomatch h),
      fun _ _ _ h => (nomatch h), fun _ h => (nomatch h), fun _ _ _ h => (nomatch h)⟩ (fun _ e => nomatch e)

end HS
