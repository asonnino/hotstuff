import HotstuffModel.Model.ProposerWait
/-!
The proposer's wait for acknowledgements (`PW.wait`): it ends exactly at the first crossing of the quorum.
-/
namespace HS.PW

theorem wait_breaks_iff (q t : Nat) (ss : List Nat) :
    (wait q t ss).2 = true ↔ ss ≠ [] ∧ q ≤ t + ss.sum := by
  induction ss generalizing t with
  | nil => simp [wait]
  | cons s rest ih =>
    rw [List.sum_cons, ← Nat.add_assoc, wait]
    rcases Nat.lt_or_ge (t + s) q with h | h
    · rw [if_neg (Nat.not_le.2 h), ih]
      -- with no further completion the total stays `t + s`, below the quorum
      exact ⟨fun h' => ⟨nofun, h'.2⟩, fun h' => ⟨by rintro rfl; exact Nat.not_le.2 h h'.2, h'.2⟩⟩
    · rw [if_pos h]
      exact ⟨fun _ => ⟨nofun, Nat.le_add_right_of_le h⟩, fun _ => rfl⟩

theorem wait_consumes_le (q t : Nat) (ss : List Nat) : (wait q t ss).1 ≤ ss.length := by
  induction ss generalizing t with
  | nil => simp [wait]
  | cons s rest ih =>
    rw [wait]
    split
    · exact Nat.succ_le_succ (Nat.zero_le _)
    · exact Nat.succ_le_succ (ih _)

theorem wait_stops_at_first_crossing (q t : Nat) (ss : List Nat) (h : (wait q t ss).2 = true) :
    q ≤ t + (ss.take (wait q t ss).1).sum ∧
    ∀ j, 0 < j → j < (wait q t ss).1 → ¬ q ≤ t + (ss.take j).sum := by
  induction ss generalizing t with
  | nil => simp [wait] at h
  | cons s rest ih =>
    rw [wait] at h ⊢
    rcases Nat.lt_or_ge (t + s) q with hq | hq
    · rw [if_neg (Nat.not_le.2 hq)] at h ⊢
      obtain ⟨i1, i2⟩ := ih (t + s) h
      refine ⟨by simpa [Nat.add_assoc] using i1, fun j h1 h2 => ?_⟩
      obtain ⟨j, rfl⟩ := Nat.exists_eq_succ_of_ne_zero (Nat.ne_of_gt h1)
      -- the first completion alone does not reach the quorum; later prefixes are the tail's
      cases j with
      | zero => simpa using hq
      | succ j => simpa [Nat.add_assoc] using i2 (j + 1) (Nat.succ_pos j) (Nat.lt_of_succ_lt_succ h2)
    · rw [if_pos hq]
      exact ⟨by simpa using hq, fun j h1 h2 => absurd h2 (Nat.not_lt.2 h1)⟩

end HS.PW
