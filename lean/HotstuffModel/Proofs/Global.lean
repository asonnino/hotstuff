import HotstuffModel.Proofs.NodeInv6
import HotstuffModel.Proofs.NodeInv2
import HotstuffModel.Proofs.NodeInv5
import HotstuffModel.Proofs.Agreement
import HotstuffModel.Properties.C17
/-!
The global model (DESIGN C01, Layer C): one node model per honest committee member; a global step
delivers ANY event to ANY honest member, provided every signature token inside it that names an
honest signer was really produced by that signer (is recorded in the signer's own history).
Byzantine members are not modelled as programs at all: whatever they do is some event sequence.
Delay, reordering, duplication, loss, partitions: all are just event orders.
-/
namespace HS
open Node

/-- Deployment: a committee with distinct keys, total stake in range, and a set of Byzantine
members holding at most f = ⌊(n-1)/3⌋ of the stake. -/
structure World where
  c : Committee
  bad : Nat → Bool
  wf : c.WF
  nonempty : c.keys ≠ []
  n1 : 1 ≤ c.total
  n2 : c.total < 2 ^ 31
  badBound : c.weight (c.keys.filter bad) ≤ C17.f c.total

abbrev GState := Nat → Node

def upd (G : GState) (i : Nat) (s : Node) : GState := fun j => if j = i then s else G j

@[simp] theorem upd_same (G : GState) (i : Nat) (s : Node) : upd G i s i = s := by simp [upd]
theorem upd_other (G : GState) (i j : Nat) (s : Node) (h : j ≠ i) : upd G i s j = G j := by simp [upd, h]

/-- A token is legitimate in `G`: its signer is Byzantine (may sign anything), or the signer's own
history records having signed exactly that content (unforgeability). -/
def Legit (bad : Nat → Bool) (G : GState) (sig : Sig) : Prop :=
  bad sig.signer = true ∨ SelfSigned (G sig.signer).hist sig.content

def World.honest (X : World) (i : Nat) : Prop := i ∈ X.c.keys ∧ X.bad i = false

inductive Reach (X : World) : GState → Prop
  | init : Reach X (fun i => Node.init X.c i)
  | step (G : GState) (i : Nat) (e : Event) :
      Reach X G → X.honest i → EventTok (Legit X.bad G) e →
      Reach X (upd G i (step X.c (G i) e))

theorem legit_mono (bad : Nat → Bool) (G : GState) (i : Nat) (s' : Node)
    (hs : ∀ o ∈ (G i).hist, o ∈ s'.hist) (sig : Sig) (h : Legit bad G sig) :
    Legit bad (upd G i s') sig := by
  rcases h with h | h
  · left; exact h
  · right
    by_cases hi : sig.signer = i
    · rw [hi, upd_same]; rw [hi] at h; exact selfSigned_mono hs _ h
    · rw [upd_other _ _ _ _ hi]; exact h

theorem reach_name (X : World) (G : GState) (h : Reach X G) : ∀ i, (G i).name = i := by
  induction h with
  | init => intro i; exact init_name X.c i
  | step G i e _ _ _ ih =>
    intro j
    by_cases hj : j = i
    · subst hj; rw [upd_same, (ext_step X.c _ e).name]; exact ih j
    · rw [upd_other _ _ _ _ hj]; exact ih j

theorem reach_local (X : World) (G : GState) (h : Reach X G) :
    ∀ i, X.honest i → Inv1 (G i) ∧ Inv2 (G i) ∧ Inv3 X.c (G i) ∧ Inv4 (G i) ∧ Inv5 (G i) := by
  induction h with
  | init =>
    intro i hi
    exact ⟨inv1_init _ _, inv2_init _ _, inv3_init _ _ hi.1, inv4_init _ _, inv5_init _ _⟩
  | step G i e _ hi _ ih =>
    intro j hj
    by_cases hji : j = i
    · subst hji
      rw [upd_same]
      obtain ⟨h1, h2, h3, h4, h5⟩ := ih j hj
      exact ⟨inv1_step _ _ _ h1, inv2_step _ _ _ h1 h2, inv3_step _ _ _ h3,
        inv4_step _ X.nonempty rfl _ _ h3 h4, inv5_step _ _ _ h4 h5⟩
    · rw [upd_other _ _ _ _ hji]; exact ih j hj

/-- Token provenance: every token inside a certificate that an honest member holds, votes on or
commits by is legitimate. -/
theorem reach_legit (X : World) (G : GState) (h : Reach X G) (i : Nat) (hi : X.honest i) :
    Inv6 (Legit X.bad G) (G i) := by
  induction h generalizing i with
  | init => exact inv6_init _ X.c i
  | step G j e hr hj hev ih =>
    have hsub : ∀ o ∈ (G j).hist, o ∈ (step X.c (G j) e).hist := (ext_step X.c (G j) e).hist_mem
    by_cases hij : i = j
    · subst hij
      rw [upd_same]
      refine (inv6_step X.c (G i) e hev ((ih i hi).mono fun _ => .inl)).mono ?_
      rintro sig (hs | ⟨hn, hs⟩)
      · exact legit_mono X.bad G i _ hsub sig hs
      · rw [(ext_step X.c _ e).name, reach_name X G hr] at hn
        exact .inr (by rw [hn, upd_same]; exact hs)
    · rw [upd_other _ _ _ _ hij]
      exact (ih i hi).mono (legit_mono X.bad G j _ hsub)

end HS
