import HotstuffModel.Model.Aggregator
import HotstuffModel.Proofs.Committee
/-!
What acceptance by the `verify` functions means (both directions).
-/
namespace HS

theorem Sig.valid_iff {s : Sig} {x : Content} {k : Nat} :
    s.valid x k = true ↔ s.signer = k ∧ s.content = x := by
  simp [Sig.valid]

theorem Sig.valid_inj {s : Sig} {x x' : Content} {k k' : Nat} (h : s.valid x k = true)
    (h' : s.valid x' k' = true) : x' = x ∧ k' = k :=
  have ⟨hk, hx⟩ := Sig.valid_iff.mp h
  have ⟨hk', hx'⟩ := Sig.valid_iff.mp h'
  ⟨hx'.symm.trans hx, hk'.symm.trans hk⟩

theorem ne_ok_iff {ε : Type} {x : Except ε Unit} : x ≠ .ok () ↔ ∃ e, x = .error e := by
  cases x <;> simp

/-! The `verify` functions are ladders of two shapes of `if`: `ensure!(¬ p, e)` followed by the rest,
and "accept if `p`, else the rest". -/
theorem reject_ok_iff {ε α : Type} {p : Prop} [Decidable p] {e : ε} {x : Except ε α} {a : α} :
    (if p then .error e else x) = .ok a ↔ ¬ p ∧ x = .ok a := by
  split <;> simp [*]

theorem accept_ok_iff {ε α : Type} {p : Prop} [Decidable p] {x : Except ε α} {a : α} :
    (if p then .ok a else x) = .ok a ↔ p ∨ x = .ok a := by
  split <;> simp [*]

/-! The guards come from the source (Generated/Guards.lean).  The proofs below need them in exactly
these shapes; a guard that changes stops normalising here. -/
theorem stakeGuard_iff (s : Nat) : decide (s > 0) = true ↔ s ≠ 0 := by
  simp [Nat.pos_iff_ne_zero]

theorem quorumGuard_iff (w q : Nat) : decide (w ≥ q) = true ↔ q ≤ w := by simp

theorem checkSigners_ok_iff (c : Committee) (l used : List Nat) (w w' : Nat) :
    checkSigners c l used w = .ok w' ↔
      (l.Nodup ∧ (∀ x ∈ l, x ∉ used) ∧ (∀ x ∈ l, c.stake x ≠ 0) ∧ w' = w + c.weight l) := by
  induction l generalizing used w with
  | nil => simp [checkSigners, Committee.weight, eq_comm]
  | cons a l ih =>
    simp only [checkSigners, reject_ok_iff, Bool.not_eq_true', Bool.not_eq_false, stakeGuard_iff, ih,
      List.contains_iff_mem, List.nodup_cons, List.mem_cons, forall_eq_or_imp, not_or, forall_and,
      List.forall_mem_ne', Committee.weight, List.map_cons, List.sum_cons, Nat.add_assoc]
    -- the same seven facts on both sides: what the loop tests of `a`, then of `l`; and clause by clause
    constructor
    · rintro ⟨aUnused, aStaked, nodup, ⟨aNotLater, unused⟩, staked, weight⟩
      exact ⟨⟨aNotLater, nodup⟩, ⟨aUnused, unused⟩, ⟨aStaked, staked⟩, weight⟩
    · rintro ⟨⟨aNotLater, nodup⟩, ⟨aUnused, unused⟩, ⟨aStaked, staked⟩, weight⟩
      exact ⟨aUnused, aStaked, nodup, ⟨aNotLater, unused⟩, staked, weight⟩

/-- What `QC::verify` and `TC::verify` have in common: the signer loop, the quorum test (failing with
`err`), then every signature. -/
theorem cert_ok_iff {σ : Type} (c : Committee) (signers : List Nat) (sigs : List σ) (good : σ → Bool)
    (err : VErr) :
    (match checkSigners c signers [] 0 with
      | .error e => .error e
      | .ok w =>
        if !decide (w ≥ c.quorum) then .error err
        else if sigs.all good then .ok () else .error .invalidSignature : Except VErr Unit) = .ok () ↔
      (signers.Nodup ∧ (∀ x ∈ signers, c.stake x ≠ 0) ∧ c.quorum ≤ c.weight signers ∧
        ∀ v ∈ sigs, good v = true) := by
  have hcs := checkSigners_ok_iff c signers [] 0
  split
  next e he =>
    -- the loop fails only if a signer is repeated or has no stake
    refine iff_of_false nofun fun h => ?_
    have := (hcs _).mpr ⟨h.1, by simp, h.2.1, rfl⟩
    rw [he] at this; cases this
  next w hw =>
    obtain ⟨hnd, -, hst, rfl⟩ := (hcs w).mp hw
    simp only [reject_ok_iff, accept_ok_iff, Bool.not_eq_true', Bool.not_eq_false, quorumGuard_iff,
      List.all_eq_true, Nat.zero_add, reduceCtorEq, or_false]
    exact ⟨fun h => ⟨hnd, hst, h⟩, fun h => h.2.2⟩

theorem QC.verify_ok_iff (c : Committee) (q : QC) :
    q.verify c = .ok () ↔
      (q.signers.Nodup ∧ (∀ x ∈ q.signers, c.stake x ≠ 0) ∧ c.quorum ≤ c.weight q.signers ∧
        ∀ v ∈ q.votes, v.2.valid q.content v.1 = true) :=
  cert_ok_iff c q.signers q.votes _ _

theorem TC.verify_ok_iff (c : Committee) (t : TC) :
    t.verify c = .ok () ↔
      (t.signers.Nodup ∧ (∀ x ∈ t.signers, c.stake x ≠ 0) ∧ c.quorum ≤ c.weight t.signers ∧
        ∀ v ∈ t.votes, v.2.1.valid (.timeout t.round v.2.2) v.1 = true) :=
  cert_ok_iff c t.signers t.votes _ _

theorem Vote.verify_ok_iff (c : Committee) (v : Vote) :
    v.verify c = .ok () ↔ (c.stake v.author ≠ 0 ∧ v.sig.valid v.content v.author = true) := by
  simp only [Vote.verify, reject_ok_iff, accept_ok_iff, Bool.not_eq_true', Bool.not_eq_false, stakeGuard_iff,
    reduceCtorEq, or_false]

theorem Timeout.verify_ok_iff (c : Committee) (t : Timeout) :
    t.verify c = .ok () ↔
      (c.stake t.author ≠ 0 ∧ t.sig.valid t.content t.author = true ∧
        (t.highQC.isGenesis = true ∨ t.highQC.verify c = .ok ())) := by
  simp only [Timeout.verify, reject_ok_iff, accept_ok_iff, stakeGuard_iff, Bool.not_eq_true',
    Bool.not_eq_false]

theorem Block.verify_ok_iff (c : Committee) (b : Block) :
    b.verify c = .ok () ↔
      (c.stake b.author ≠ 0 ∧ b.sig.valid (.block b.digest) b.author = true ∧
        (b.qc.isGenesis = true ∨ b.qc.verify c = .ok ()) ∧
        ∀ tc, b.tc = some tc → tc.verify c = .ok ()) := by
  -- `← accept_ok_iff` folds the right side's `isGenesis ∨ verify = ok` back into the model's `if`, so
  -- that both sides are split on the same term
  simp only [Block.verify, reject_ok_iff, stakeGuard_iff, Bool.not_eq_true', Bool.not_eq_false,
    ← accept_ok_iff]
  split
  next e he => simp [he]
  next he => split <;> simp [*]

end HS
