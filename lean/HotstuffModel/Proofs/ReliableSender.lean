import HotstuffModel.Model.ReliableSender
/-!
# The reliable-sender model: its transitions as rules, and the invariants of every reachable state

`Step` lists the enabled branches of `stepCore` as rules (`step_spec`); what a step can do is then a case
analysis on the rule (state the fact about `Step s e s' o` for variables `s'`, `o` and apply it to
`step_spec s e`; `cases` needs variables there) or on one of two views of it: `Shape` (what happens to
`held`, `handed`, `closed`) and `Step.frame` (what is written).  `InvH` relates what the sender holds to
the hand-over order, `InvP` pairs frames and responses connection by connection.  The schedules at the
end run `step` forwards, by its equations under the guards of a rule, and give the exact state after a
connect, after the drain loop and after reading responses.
-/
namespace HS.RS

/-- `l'` is `l` with some members of `c` removed. -/
def Pruned (c l' l : List Nat) : Prop := l'.Sublist l ∧ ∀ x ∈ l, x ∉ c → x ∈ l'

namespace Pruned

theorem refl (c l : List Nat) : Pruned c l l := ⟨List.Sublist.refl l, fun _ h _ => h⟩

theorem append {c a' a b' b : List Nat} (ha : Pruned c a' a) (hb : Pruned c b' b) :
    Pruned c (a' ++ b') (a ++ b) :=
  ⟨ha.1.append hb.1, fun x hx hc => by
    rw [List.mem_append] at hx ⊢
    exact hx.imp (ha.2 x · hc) (hb.2 x · hc)⟩

theorem filter (c l : List Nat) : Pruned c (l.filter fun x => !decide (x ∈ c)) l :=
  ⟨List.filter_sublist, fun x hx hc => List.mem_filter.2 ⟨hx, by simpa using hc⟩⟩

end Pruned

theorem sublist_eq_filter {l₁ l : List Nat} (h : l₁.Sublist l) (hn : l.Nodup) :
    l₁ = l.filter (fun x => decide (x ∈ l₁)) := by
  induction h with
  | slnil => rfl
  | @cons l₁ t a h ih =>
    have hnt := List.nodup_cons.1 hn
    have : a ∉ l₁ := fun ha => hnt.1 (h.subset ha)
    simp only [List.filter_cons, this, decide_false]
    exact ih hnt.2
  | @cons_cons l₁ t a h ih =>
    have hnt := List.nodup_cons.1 hn
    simp only [List.filter_cons, List.mem_cons, true_or, decide_true, if_true]
    congr 1
    rw [ih hnt.2]
    refine (List.filter_congr fun x hx => ?_).symm
    have : x ≠ a := fun hxa => hnt.1 (hxa ▸ hx)
    simp [this, ← ih hnt.2]

theorem split_unique {X Y X' Y' : List Nat} {m : Nat} (h : X ++ m :: Y = X' ++ m :: Y')
    (h1 : m ∉ X) (h2 : m ∉ X') : X = X' := by
  have front : ∀ {X Y : List Nat}, m ∉ X → (X ++ m :: Y).takeWhile (· != m) = X := fun hX => by
    rw [List.takeWhile_append_of_pos fun a ha => by simpa using fun h : a = m => hX (h ▸ ha)]
    simp
  rw [← front h1, h, front h2]

theorem mem_left_of_sublist {p q pre post : List Nat} {a b : Nat}
    (h : (p ++ b :: q).Sublist (pre ++ b :: post)) (hn : (pre ++ b :: post).Nodup) (ha : a ∈ pre)
    (ha' : a ∈ p ++ b :: q) : a ∈ p := by
  have notMem_front {x y : List Nat} (hn : (x ++ b :: y).Nodup) : b ∉ x := fun hb =>
    (List.nodup_append.1 hn).2.2 b hb b (List.mem_cons_self ..) rfl
  -- the sublist is the list filtered by membership in it, and both split at their only `b`
  have hf := sublist_eq_filter h hn
  rw [List.filter_append, List.filter_cons_of_pos (by simp)] at hf
  rw [split_unique hf (notMem_front (hn.sublist h)) fun hx => notMem_front hn (List.mem_filter.1 hx).1]
  exact List.mem_filter.2 ⟨ha, by simpa using ha'⟩

/-- `is_closed` is checked when a message is popped: the one the drain loop stops at is alive. -/
theorem drained_head_live {s : State} {m : Nat} {rest : List Nat} (h : s.drained = m :: rest) : m ∉ s.closed := by
  unfold State.drained at h
  have := List.head_dropWhile_not s.isClosed (l := s.buffer) (by simp [h])
  simpa [h, State.isClosed] using this

theorem live_drained (s : State) :
    s.drained.filter (fun x => !s.isClosed x) = s.buffer.filter (fun x => !s.isClosed x) := by
  unfold State.drained
  induction s.buffer with
  | nil => rfl
  | cons a t ih => by_cases h : s.isClosed a <;> simp [h, ih]

theorem pruned_drained (s : State) : Pruned s.closed s.drained s.buffer :=
  ⟨List.dropWhile_sublist _, fun x hx hc =>
    (List.mem_filter.1 (live_drained s ▸ List.mem_filter.2 ⟨hx, by simpa [State.isClosed] using hc⟩)).1⟩

theorem held_writing {s : State} {b : Nat} (hw : s.writing = some b) :
    s.held = s.pending ++ b :: (s.buffer ++ s.chan) := by
  simp [State.held, hw]

@[simp] theorem framesOn_nil (c : Nat) : framesOn c [] = [] := rfl
@[simp] theorem framesOn_frame (c c' id : Nat) (l : List Out) :
    framesOn c (.frame c' id :: l) = if c' = c then id :: framesOn c l else framesOn c l := by
  by_cases h : c' = c <;> simp only [framesOn, List.filterMap_cons, h, ↓reduceIte]
@[simp] theorem framesOn_ackd (c c' id b : Nat) (l : List Out) : framesOn c (.ackd c' id b :: l) = framesOn c l := rfl
@[simp] theorem framesOn_resolve (c id b : Nat) (l : List Out) : framesOn c (.resolve id b :: l) = framesOn c l := rfl
@[simp] theorem acksOn_nil (c : Nat) : acksOn c [] = [] := rfl
@[simp] theorem acksOn_frame (c c' id : Nat) (l : List Out) : acksOn c (.frame c' id :: l) = acksOn c l := rfl
@[simp] theorem acksOn_ackd (c c' id b : Nat) (l : List Out) :
    acksOn c (.ackd c' id b :: l) = if c' = c then (id, b) :: acksOn c l else acksOn c l := by
  by_cases h : c' = c <;> simp only [acksOn, List.filterMap_cons, h, ↓reduceIte]
@[simp] theorem acksOn_resolve (c id b : Nat) (l : List Out) : acksOn c (.resolve id b :: l) = acksOn c l := rfl
@[simp] theorem written_nil : written [] = [] := rfl
@[simp] theorem written_frame (c id : Nat) (l : List Out) : written (.frame c id :: l) = id :: written l := rfl
@[simp] theorem written_ackd (c id b : Nat) (l : List Out) : written (.ackd c id b :: l) = written l := rfl
@[simp] theorem written_resolve (id b : Nat) (l : List Out) : written (.resolve id b :: l) = written l := rfl
@[simp] theorem acked_nil : acked [] = [] := rfl
@[simp] theorem acked_frame (c id : Nat) (l : List Out) : acked (.frame c id :: l) = acked l := rfl
@[simp] theorem acked_ackd (c id b : Nat) (l : List Out) : acked (.ackd c id b :: l) = id :: acked l := rfl
@[simp] theorem acked_resolve (id b : Nat) (l : List Out) : acked (.resolve id b :: l) = acked l := rfl
@[simp] theorem resolved_nil : resolved [] = [] := rfl
@[simp] theorem resolved_frame (c id : Nat) (l : List Out) : resolved (.frame c id :: l) = resolved l := rfl
@[simp] theorem resolved_ackd (c id b : Nat) (l : List Out) : resolved (.ackd c id b :: l) = resolved l := rfl
@[simp] theorem resolved_resolve (id b : Nat) (l : List Out) :
    resolved (.resolve id b :: l) = (id, b) :: resolved l := rfl

theorem framesOn_append (c : Nat) (a b : List Out) : framesOn c (a ++ b) = framesOn c a ++ framesOn c b :=
  List.filterMap_append ..
theorem acksOn_append (c : Nat) (a b : List Out) : acksOn c (a ++ b) = acksOn c a ++ acksOn c b :=
  List.filterMap_append ..
theorem written_append (a b : List Out) : written (a ++ b) = written a ++ written b := List.filterMap_append ..
theorem acked_append (a b : List Out) : acked (a ++ b) = acked a ++ acked b := List.filterMap_append ..
theorem resolved_append (a b : List Out) : resolved (a ++ b) = resolved a ++ resolved b :=
  List.filterMap_append ..

/-- (message, bytes) of all responses consumed, on any connection. -/
def allAcks (tr : List Out) : List (Nat × Nat) :=
  tr.filterMap (fun o => match o with | .ackd _ id b => some (id, b) | _ => none)

@[simp] theorem allAcks_nil : allAcks [] = [] := rfl
@[simp] theorem allAcks_frame (c id : Nat) (l : List Out) : allAcks (.frame c id :: l) = allAcks l := rfl
@[simp] theorem allAcks_ackd (c id b : Nat) (l : List Out) : allAcks (.ackd c id b :: l) = (id, b) :: allAcks l := rfl
@[simp] theorem allAcks_resolve (id b : Nat) (l : List Out) : allAcks (.resolve id b :: l) = allAcks l := rfl
theorem allAcks_append (a b : List Out) : allAcks (a ++ b) = allAcks a ++ allAcks b := List.filterMap_append ..

theorem mem_framesOn {c m : Nat} {tr : List Out} : m ∈ framesOn c tr ↔ .frame c m ∈ tr := by
  refine List.mem_filterMap.trans ⟨fun ⟨o, ho, h⟩ => ?_, fun h => ⟨_, h, if_pos rfl⟩⟩
  cases o <;> simp at h
  exact h.1 ▸ h.2 ▸ ho

theorem mem_written {m : Nat} {tr : List Out} : m ∈ written tr ↔ ∃ c, .frame c m ∈ tr := by
  refine List.mem_filterMap.trans ⟨fun ⟨o, ho, h⟩ => ?_, fun ⟨c, h⟩ => ⟨_, h, rfl⟩⟩
  cases o <;> simp at h
  exact ⟨_, h ▸ ho⟩

theorem mem_acksOn {c : Nat} {p : Nat × Nat} {tr : List Out} : p ∈ acksOn c tr ↔ .ackd c p.1 p.2 ∈ tr := by
  refine List.mem_filterMap.trans ⟨fun ⟨o, ho, h⟩ => ?_, fun h => ⟨_, h, if_pos rfl⟩⟩
  cases o <;> simp at h
  exact h.1 ▸ h.2 ▸ ho

theorem mem_allAcks {p : Nat × Nat} {tr : List Out} : p ∈ allAcks tr ↔ ∃ c, .ackd c p.1 p.2 ∈ tr := by
  refine List.mem_filterMap.trans ⟨fun ⟨o, ho, h⟩ => ?_, fun ⟨c, h⟩ => ⟨_, h, rfl⟩⟩
  cases o <;> simp at h
  subst h
  exact ⟨_, ho⟩

theorem allAcks_map_fst (tr : List Out) : (allAcks tr).map Prod.fst = acked tr := by
  induction tr with
  | nil => rfl
  | cons o t ih => cases o <;> simp [ih]

/-- One rule per enabled branch of `stepCore`, the guard as hypotheses; `skip` stands for every event
the task cannot take in `s`.  `skip` carries no guard: the rules allow more stuttering than `step` does,
which no invariant minds, but they cannot be run forwards (the schedules use equations of `step`).
`unexpectedAck` and `readClosed` end `keep_alive` like `writeFail` does (`teardown`);
`ackLive`/`ackDead` are the two outcomes of `handler.send(bytes)`. -/
inductive Step (s : State) : Event → State → List Out → Prop
  | skip {e} : Step s e s []
  | send {id} (h : id ∉ s.handed) :
      Step s (.send id) { s with chan := s.chan ++ [id], handed := s.handed ++ [id] } []
  | cancel {id} (hh : id ∈ s.handed) (hc : id ∉ s.closed) :
      Step s (.cancel id) { s with closed := id :: s.closed } []
  | connectOk (hm : s.mode = .connecting) :
      Step s .connectOk { s with mode := .connected, connNo := s.connNo + 1, delay := 200, retry := 0 } []
  | connectFail (hm : s.mode = .connecting) : Step s .connectFail { s with mode := .waiting } []
  | timerFired (hm : s.mode = .waiting) :
      Step s .timerFired
        { s with mode := .connecting, delay := min (2 * s.delay) 60000, retry := s.retry + 1 } []
  | recvWaiting {m rest} (hm : s.mode = .waiting) (hc : s.chan = m :: rest) :
      Step s .recvMsg { s with chan := rest, buffer := (s.buffer ++ [m]).filter (fun x => !s.isClosed x) } []
  | recvConnected {m rest} (hm : s.mode = .connected) (hw : s.writing = none) (hd : s.drained = [])
      (hc : s.chan = m :: rest) : Step s .recvMsg { s with chan := rest, buffer := [m] } []
  | drainEmpty (hm : s.mode = .connected) (hw : s.writing = none) (hd : s.drained = []) :
      Step s .writeBegin { s with buffer := [] } []
  | writeBegin {m rest} (hm : s.mode = .connected) (hw : s.writing = none) (hd : s.drained = m :: rest) :
      Step s .writeBegin { s with buffer := rest, writing := some m } []
  | writeOk {m} (hm : s.mode = .connected) (hw : s.writing = some m) :
      Step s .writeOk
        { s with writing := none, pending := s.pending ++ [m], trace := s.trace ++ [.frame s.connNo m] }
        [.frame s.connNo m]
  | writeFail {m} (hm : s.mode = .connected) (hw : s.writing = some m) :
      Step s .writeFail
        { s with writing := none, pending := [], buffer := s.pending ++ m :: s.buffer, mode := .connecting } []
  | unexpectedAck {b} (hm : s.mode = .connected) (hw : s.writing = none) (hd : s.drained = [])
      (hp : s.pending = []) :
      Step s (.ackRead b) { s with pending := [], buffer := s.pending, mode := .connecting } []
  | readClosed (hm : s.mode = .connected) (hw : s.writing = none) (hd : s.drained = []) :
      Step s .readClosed { s with pending := [], buffer := s.pending, mode := .connecting } []
  | ackLive {m rest b} (hm : s.mode = .connected) (hw : s.writing = none) (hd : s.drained = [])
      (hp : s.pending = m :: rest) (hl : m ∉ s.closed) :
      Step s (.ackRead b)
        { s with buffer := [], pending := rest, trace := s.trace ++ [.ackd s.connNo m b, .resolve m b] }
        [.ackd s.connNo m b, .resolve m b]
  | ackDead {m rest b} (hm : s.mode = .connected) (hw : s.writing = none) (hd : s.drained = [])
      (hp : s.pending = m :: rest) (hl : m ∈ s.closed) :
      Step s (.ackRead b) { s with buffer := [], pending := rest, trace := s.trace ++ [.ackd s.connNo m b] }
        [.ackd s.connNo m b]

theorem step_spec (s : State) (e : Event) : Step s e (step s e) (outs s e) := by
  show Step s e { (stepCore s e).1 with trace := s.trace ++ (stepCore s e).2 } (stepCore s e).2
  generalize h : stepCore s e = r
  cases e with
  | send id =>
    dsimp only [stepCore] at h
    split at h <;> subst h <;> simp only [List.append_nil]
    · exact .skip
    · rename_i hid; exact .send hid
  | cancel id =>
    dsimp only [stepCore] at h
    split at h <;> subst h <;> simp only [List.append_nil]
    · rename_i hid; exact .cancel hid.1 hid.2
    · exact .skip
  | connectOk =>
    dsimp only [stepCore] at h
    split at h <;> subst h <;> simp only [List.append_nil]
    · rename_i hm; exact .connectOk hm
    · exact .skip
  | connectFail =>
    dsimp only [stepCore] at h
    split at h <;> subst h <;> simp only [List.append_nil]
    · rename_i hm; exact .connectFail hm
    · exact .skip
  | timerFired =>
    dsimp only [stepCore] at h
    split at h <;> subst h <;> simp only [List.append_nil]
    · rename_i hm; exact .timerFired hm
    · exact .skip
  | recvMsg =>
    dsimp only [stepCore] at h
    split at h
    · subst h; simp only [List.append_nil]; exact .skip
    · rename_i m rest hc
      split at h
      · subst h; simp only [List.append_nil]; exact .skip
      · rename_i hm; subst h; simp only [List.append_nil]; exact .recvWaiting hm hc
      · rename_i hm
        split at h <;> subst h <;> simp only [List.append_nil]
        · rename_i hw hd; exact .recvConnected hm hw hd hc
        · exact .skip
  | writeBegin =>
    dsimp only [stepCore] at h
    split at h
    · rename_i hm hw
      split at h <;> subst h <;> simp only [List.append_nil]
      · rename_i hd; exact .drainEmpty hm hw hd
      · rename_i m rest hd; exact .writeBegin hm hw hd
    · subst h; simp only [List.append_nil]; exact .skip
  | writeOk =>
    dsimp only [stepCore] at h
    split at h <;> subst h <;> simp only [List.append_nil]
    · rename_i m hm hw; exact .writeOk hm hw
    · exact .skip
  | writeFail =>
    dsimp only [stepCore] at h
    split at h <;> subst h <;> simp only [teardown, List.append_nil]
    · rename_i m hm hw; exact .writeFail hm hw
    · exact .skip
  | ackRead b =>
    dsimp only [stepCore] at h
    split at h
    · rename_i hm hw hd
      split at h
      · rename_i hp; subst h; simp only [teardown, List.append_nil]; exact .unexpectedAck hm hw hd hp
      · rename_i m rest hp
        split at h <;> subst h
        · rename_i hl; exact .ackDead hm hw hd hp (by simpa [State.isClosed] using hl)
        · rename_i hl; exact .ackLive hm hw hd hp (by simpa [State.isClosed] using hl)
    · subst h; simp only [List.append_nil]; exact .skip
  | readClosed =>
    dsimp only [stepCore] at h
    split at h <;> subst h <;> simp only [teardown, List.append_nil]
    · rename_i hm hw hd; exact .readClosed hm hw hd
    · exact .skip

theorem step_trace (s : State) (e : Event) : (step s e).trace = s.trace ++ outs s e := rfl

/-- What a step does to `held`, `handed` and `closed`, and which responses it consumes: it takes the
consumed ones from the front of `held` and prunes the rest, or it appends a fresh message. -/
inductive Shape (s s' : State) (o : List Out) : Prop
  | shrink (rest : List Nat) (hh : s'.handed = s.handed) (hc : ∀ m ∈ s.closed, m ∈ s'.closed)
      (hd : s.held = acked o ++ rest) (hp : Pruned s.closed s'.held rest)
      (hres : ∀ m ∈ acked o, m ∉ s.closed → ∃ b, Out.resolve m b ∈ o)
  | grow (id : Nat) (hid : id ∉ s.handed) (hh : s'.handed = s.handed ++ [id]) (hc : s'.closed = s.closed)
      (ho : o = []) (hd : s'.held = s.held ++ [id])

namespace Step
variable {s s' : State} {e : Event} {o : List Out}

theorem shape (h : Step s e s' o) : Shape s s' o := by
  have quiet {s' : State} (hh : s'.handed = s.handed) (hc : s'.closed = s.closed)
      (hp : Pruned s.closed s'.held s.held) : Shape s s' [] :=
    .shrink _ hh (fun _ h => hc ▸ h) rfl hp nofun
  have drain (A C : List Nat) : Pruned s.closed (A ++ s.drained ++ C) (A ++ s.buffer ++ C) :=
    ((Pruned.refl _ A).append (pruned_drained s)).append (Pruned.refl _ C)
  cases h with
  | skip | connectOk | connectFail | timerFired => exact quiet rfl rfl (Pruned.refl _ _)
  | send hid => exact .grow _ hid rfl rfl rfl (by simp [State.held])
  | cancel => exact .shrink _ rfl (fun _ h => List.mem_cons_of_mem _ h) rfl (Pruned.refl _ _) nofun
  | @recvWaiting m rest hm hc =>
    refine quiet rfl rfl ?_
    simpa [State.held, hc, State.isClosed] using
      ((Pruned.refl _ (s.pending ++ s.writing.toList)).append (Pruned.filter s.closed (s.buffer ++ [m]))).append
        (Pruned.refl _ rest)
  | recvConnected hm hw hd hc =>
    exact quiet rfl rfl (by simpa [State.held, hc, hd] using drain (s.pending ++ s.writing.toList) s.chan)
  | drainEmpty hm hw hd | writeBegin hm hw hd | unexpectedAck hm hw hd | readClosed hm hw hd =>
    exact quiet rfl rfl (by simpa [State.held, hw, hd] using drain s.pending s.chan)
  | writeOk hm hw =>
    exact .shrink _ rfl (fun _ h => h) rfl (by simpa [State.held, hw] using Pruned.refl _ _) nofun
  | writeFail hm hw => exact quiet rfl rfl (by simpa [State.held, hw] using Pruned.refl _ _)
  | @ackLive m rest b hm hw hd hp hl | @ackDead m rest b hm hw hd hp hl =>
    refine .shrink (rest ++ s.buffer ++ s.chan) rfl (fun _ h => h) (by simp [State.held, hw, hp]) ?_ (by simp [hl])
    simpa [State.held, hw, hd] using drain rest s.chan

theorem frame (h : Step s e s' o) :
    written o = [] ∨ ∃ m, s.mode = .connected ∧ s.writing = some m ∧ o = [.frame s.connNo m] := by
  cases h with
  | writeOk hm hw => exact .inr ⟨_, hm, hw, rfl⟩
  | _ => exact .inl rfl

end Step

structure InvH (s : State) : Prop where
  nodupH : s.handed.Nodup
  /-- one statement for: acknowledged and held messages are disjoint, duplicate-free, in hand-over order -/
  sub : (acked s.trace ++ s.held).Sublist s.handed
  keep : ∀ m ∈ s.handed, m ∉ s.closed → m ∉ acked s.trace → m ∈ s.held

theorem InvH.step {s : State} (h : InvH s) (e : Event) : InvH (RS.step s e) := by
  obtain ⟨hn, hsub, hkeep⟩ := h
  have hak : acked (RS.step s e).trace = acked s.trace ++ acked (outs s e) := acked_append ..
  cases (step_spec s e).shape with
  | shrink rest hh hc hd hp _ =>
    rw [hd, ← List.append_assoc, ← hak] at hsub
    refine ⟨hh ▸ hn, hh ▸ ((List.Sublist.refl _).append hp.1).trans hsub, fun m hm hcl hna => ?_⟩
    have hcl' : m ∉ s.closed := fun hx => hcl (hc m hx)
    rw [hak, List.mem_append, not_or] at hna
    have := hkeep m (hh ▸ hm) hcl' hna.1
    rw [hd, List.mem_append] at this
    exact hp.2 m (this.resolve_left hna.2) hcl'
  | grow x hid hh hc ho hd =>
    -- nothing is acknowledged; `x` joins `handed` and `held` at the end
    rw [ho, acked_nil, List.append_nil] at hak
    refine ⟨?_, ?_, fun m hm hcl hna => ?_⟩
    · rw [hh]
      exact List.nodup_append.2 ⟨hn, by simp, fun a ha b hb => by
        rw [List.mem_singleton.1 hb]; rintro rfl; exact hid ha⟩
    · rw [hh, hd, hak, ← List.append_assoc]
      exact hsub.append (List.Sublist.refl _)
    · rw [hh, List.mem_append] at hm
      rw [hc] at hcl
      rw [hak] at hna
      rw [hd, List.mem_append]
      exact hm.imp_left (hkeep m · hcl hna)

theorem InvH.held_sub {s : State} (h : InvH s) : s.held.Sublist s.handed :=
  (List.sublist_append_right _ _).trans h.sub

theorem InvH.nodup {s : State} (h : InvH s) : (acked s.trace ++ s.held).Nodup := h.nodupH.sublist h.sub

structure InvP (s : State) : Prop where
  idle : s.mode ≠ .connected → s.pending = [] ∧ s.writing = none
  future : ∀ c, s.connNo < c → framesOn c s.trace = [] ∧ acksOn c s.trace = []
  cur : s.mode = .connected → framesOn s.connNo s.trace = (acksOn s.connNo s.trace).map Prod.fst ++ s.pending
  pref : ∀ c, (acksOn c s.trace).map Prod.fst <+: framesOn c s.trace
  pendW : ∀ m ∈ s.pending, m ∈ written s.trace
  ackW : ∀ m ∈ acked s.trace, m ∈ written s.trace
  res : ∀ p ∈ resolved s.trace, ∃ c, p ∈ acksOn c s.trace
  resSub : (resolved s.trace).Sublist (allAcks s.trace)

/-- `pendW`, `ackW` and `res` follow from the other clauses. -/
theorem InvP.of_pairing {s : State} (idle : s.mode ≠ .connected → s.pending = [] ∧ s.writing = none)
    (future : ∀ c, s.connNo < c → framesOn c s.trace = [] ∧ acksOn c s.trace = [])
    (cur : s.mode = .connected →
      framesOn s.connNo s.trace = (acksOn s.connNo s.trace).map Prod.fst ++ s.pending)
    (pref : ∀ c, (acksOn c s.trace).map Prod.fst <+: framesOn c s.trace)
    (resSub : (resolved s.trace).Sublist (allAcks s.trace)) : InvP s := by
  refine ⟨idle, future, cur, pref, fun m hm => ?_, fun m hm => ?_,
    fun p hp => (mem_allAcks.1 (resSub.subset hp)).imp fun c => mem_acksOn.2, resSub⟩
  · by_cases hc : s.mode = .connected
    · exact mem_written.2 ⟨_, mem_framesOn.1 (cur hc ▸ List.mem_append_right _ hm)⟩
    · rw [(idle hc).1] at hm; cases hm
  · rw [← allAcks_map_fst] at hm
    obtain ⟨p, hp, rfl⟩ := List.mem_map.1 hm
    obtain ⟨c, hc⟩ := mem_allAcks.1 hp
    exact mem_written.2 ⟨c, mem_framesOn.1 ((pref c).subset (List.mem_map_of_mem (mem_acksOn.2 hc)))⟩

theorem InvP.same_trace {s s' : State} (h : InvP s) (ht : s'.trace = s.trace)
    (hidle : s'.mode ≠ .connected → s'.pending = [] ∧ s'.writing = none)
    (hconn : s.connNo ≤ s'.connNo)
    (hcur : s'.mode = .connected →
      framesOn s'.connNo s.trace = (acksOn s'.connNo s.trace).map Prod.fst ++ s'.pending) : InvP s' :=
  .of_pairing hidle (fun c hc => ht ▸ h.future c (Nat.lt_of_le_of_lt hconn hc)) (ht ▸ hcur) (ht ▸ h.pref)
    (ht ▸ h.resSub)

theorem InvP.emit {s s' : State} {o : List Out} (h : InvP s) (ht : s'.trace = s.trace ++ o)
    (hm : s'.mode = .connected) (hc : s'.connNo = s.connNo)
    (hother : ∀ c, s.connNo ≠ c → framesOn c o = [] ∧ acksOn c o = [])
    (hcur : framesOn s.connNo s.trace ++ framesOn s.connNo o =
      (acksOn s.connNo s.trace ++ acksOn s.connNo o).map Prod.fst ++ s'.pending)
    (hres : (resolved o).Sublist (allAcks o)) : InvP s' := by
  have same : ∀ c, s.connNo ≠ c → framesOn c s'.trace = framesOn c s.trace ∧ acksOn c s'.trace = acksOn c s.trace :=
    fun c hne => by simp [ht, framesOn_append, acksOn_append, hother c hne]
  refine .of_pairing (fun h => absurd hm h) (fun c hlt => ?_) (fun _ => ?_) (fun c => ?_) ?_
  · rw [hc] at hlt
    rw [(same c (Nat.ne_of_lt hlt)).1, (same c (Nat.ne_of_lt hlt)).2]
    exact h.future c hlt
  · rw [hc, ht, framesOn_append, acksOn_append, hcur]
  · by_cases hne : s.connNo = c
    · -- on the established connection `pref` is what `cur` says
      subst hne
      rw [ht, framesOn_append, acksOn_append, hcur]
      exact List.prefix_append _ _
    · rw [(same c hne).1, (same c hne).2]
      exact h.pref c
  · rw [ht, resolved_append, allAcks_append]
    exact h.resSub.append hres

theorem Step.invP {s s' : State} {e : Event} {o : List Out} (hs : Step s e s' o) (h : InvP s) : InvP s' := by
  cases hs with
  | skip | send | cancel | recvWaiting | recvConnected | drainEmpty =>
    exact h.same_trace rfl h.idle (Nat.le_refl _) h.cur
  | connectFail hm | timerFired hm =>
    exact h.same_trace rfl (fun _ => h.idle (by simp [hm])) (Nat.le_refl _) nofun
  | connectOk hm =>
    -- nothing was written or read on the new connection yet
    have hf := h.future (s.connNo + 1) (Nat.lt_succ_self _)
    exact h.same_trace rfl (absurd rfl) (Nat.le_succ _)
      (fun _ => by simp [hf.1, hf.2, (h.idle (by simp [hm])).1])
  | writeBegin hm hw hd => exact h.same_trace rfl (absurd hm) (Nat.le_refl _) h.cur
  | writeFail => exact h.same_trace rfl (fun _ => ⟨rfl, rfl⟩) (Nat.le_refl _) nofun
  | unexpectedAck hm hw | readClosed hm hw => exact h.same_trace rfl (fun _ => ⟨rfl, hw⟩) (Nat.le_refl _) nofun
  | writeOk hm hw => exact h.emit rfl hm rfl (fun c hc => by simp [hc]) (by simp [h.cur hm]) (by simp)
  | ackLive hm hw hd hp | ackDead hm hw hd hp =>
    -- the response pops the head of `pending`, which is the first frame on this connection not yet answered
    exact h.emit rfl hm rfl (fun c hc => by simp [hc]) (by simp [h.cur hm, hp]) (by simp)

theorem run_append (s : State) (es es' : List Event) : run s (es ++ es') = run (run s es) es' := by
  induction es generalizing s with
  | nil => rfl
  | cons e es ih => exact ih (step s e)

theorem run_trace (s : State) (es : List Event) : (run s es).trace = s.trace ++ runO s es := by
  induction es generalizing s with
  | nil => simp [run, runO]
  | cons e es ih => simp [run, runO, ih, step_trace, List.append_assoc]

theorem runO_of_trace {s : State} {es : List Event} {o : List Out} (h : (run s es).trace = s.trace ++ o) :
    runO s es = o :=
  List.append_cancel_left ((run_trace s es).symm.trans h)

theorem Reachable.run {s : State} (h : Reachable s) (es : List Event) : Reachable (run s es) := by
  obtain ⟨es0, rfl⟩ := h
  exact ⟨es0 ++ es, by rw [run_append]⟩

theorem Reachable.induct {P : State → Prop} (h0 : P init)
    (hs : ∀ s e, Reachable s → P s → P (RS.step s e)) {s : State} (h : Reachable s) : P s := by
  obtain ⟨es, rfl⟩ := h
  suffices ∀ (es : List Event) (s : State), Reachable s → P s → P (RS.run s es) from
    this es init ⟨[], rfl⟩ h0
  intro es
  induction es with
  | nil => intro s _ h; exact h
  | cons e es ih => intro s hr h; exact ih (RS.step s e) (hr.run [e]) (hs s e hr h)

theorem Reachable.invH {s : State} (h : Reachable s) : InvH s :=
  h.induct (by constructor <;> simp [init, State.held]) fun _ e _ ih => ih.step e

theorem Reachable.invP {s : State} (h : Reachable s) : InvP s :=
  h.induct (by constructor <;> simp [init]) fun s e _ ih => (step_spec s e).invP ih

/-- The fields the drain loop reads or writes. -/
structure Core (s s' : State) (buffer pending : List Nat) (writing : Option Nat) : Prop where
  buffer : s'.buffer = buffer
  pending : s'.pending = pending
  writing : s'.writing = writing
  mode : s'.mode = s.mode
  connNo : s'.connNo = s.connNo
  closed : s'.closed = s.closed
  chan : s'.chan = s.chan

structure ConnOk (s s' : State) : Prop where
  buffer : s'.buffer = s.buffer
  pending : s'.pending = s.pending
  writing : s'.writing = s.writing
  mode : s'.mode = .connected
  connNo : s'.connNo = s.connNo + 1
  closed : s'.closed = s.closed
  chan : s'.chan = s.chan

theorem step_connectOk {s : State} (hm : s.mode = .connecting) :
    step s .connectOk = { s with mode := .connected, connNo := s.connNo + 1, delay := 200, retry := 0 } := by
  simp [step, stepCore, hm]

theorem step_writeBegin {s : State} (hm : s.mode = .connected) (hw : s.writing = none) :
    step s .writeBegin = match s.drained with
      | [] => { s with buffer := [] }
      | m :: rest => { s with buffer := rest, writing := some m } := by
  cases hd : s.drained <;> simp [step, stepCore, hm, hw, hd]

theorem step_writeOk_none {s : State} (hw : s.writing = none) : step s .writeOk = s := by
  simp only [step, stepCore]
  split
  · simp_all
  · simp only [List.append_nil]

theorem step_writeOk {s : State} (hm : s.mode = .connected) {m : Nat} (hw : s.writing = some m) :
    step s .writeOk =
      { s with writing := none, pending := s.pending ++ [m], trace := s.trace ++ [.frame s.connNo m] } := by
  simp [step, stepCore, hm, hw]

theorem step_ackRead {s : State} (hm : s.mode = .connected) (hw : s.writing = none) (hb : s.buffer = [])
    {m : Nat} {rest : List Nat} (hp : s.pending = m :: rest) (b : Nat) :
    step s (.ackRead b) =
      { s with buffer := [], pending := rest,
               trace := s.trace ++ .ackd s.connNo m b :: if decide (m ∈ s.closed) then [] else [.resolve m b] } := by
  simp [step, stepCore, hm, hw, hp, State.drained, hb, State.isClosed]

theorem run_flush (n : Nat) (s : State) (hm : s.mode = .connected) (hw : s.writing = none)
    (hn : s.buffer.length ≤ n) :
    run s (flush n) =
      { s with buffer := [], pending := s.pending ++ s.buffer.filter (fun x => !s.isClosed x),
               trace := s.trace ++ (s.buffer.filter (fun x => !s.isClosed x)).map (Out.frame s.connNo) } := by
  induction n generalizing s with
  | zero =>
    obtain ⟨⟩ := s
    obtain rfl : _ = [] := List.eq_nil_of_length_eq_zero (Nat.le_zero.1 hn)
    simp [flush, run]
  | succ n ih =>
    have hlive := live_drained s
    simp only [flush, run]
    cases hd : s.drained with
    | nil =>
      rw [hd] at hlive
      rw [step_writeBegin hm hw, hd, step_writeOk_none (s := { s with buffer := [] }) hw, ← hlive]
      exact (ih { s with buffer := [] } hm hw (Nat.zero_le n)).trans (by simp [State.isClosed])
    | cons m rest =>
      have hlen : s.drained.length ≤ s.buffer.length := (List.dropWhile_sublist _).length_le
      have hml : s.isClosed m = false := by simpa [State.isClosed] using drained_head_live hd
      rw [hd] at hlen hlive
      rw [List.filter_cons_of_pos (by simp [hml])] at hlive
      rw [step_writeBegin hm hw, hd, step_writeOk (s := { s with buffer := rest, writing := some m }) hm rfl,
        ← hlive]
      exact (ih { s with buffer := rest, writing := none, pending := s.pending ++ [m],
                         trace := s.trace ++ [.frame s.connNo m] }
        hm rfl (Nat.le_of_succ_le_succ (Nat.le_trans hlen hn))).trans (by simp [State.isClosed, hw])

theorem run_reconnect {s : State} (hm : s.mode = .connecting) (hw : s.writing = none) {n : Nat}
    (hn : s.buffer.length ≤ n) :
    run s (.connectOk :: flush n) =
      { s with mode := .connected, connNo := s.connNo + 1, delay := 200, retry := 0, buffer := [],
               pending := s.pending ++ s.buffer.filter (fun x => !s.isClosed x),
               trace := s.trace ++ (s.buffer.filter (fun x => !s.isClosed x)).map (Out.frame (s.connNo + 1)) } := by
  rw [run, step_connectOk hm]
  exact run_flush n _ rfl hw hn

theorem ackOuts_cons (c : Nat) (closed : List Nat) (m b : Nat) (ms bs : List Nat) :
    ackOuts c closed (m :: ms) (b :: bs) =
      .ackd c m b :: ((if decide (m ∈ closed) then [] else [.resolve m b]) ++ ackOuts c closed ms bs) := rfl

theorem run_acks (s : State) (hm : s.mode = .connected) (hw : s.writing = none) (hb : s.buffer = [])
    (bs : List Nat) (hl : bs.length = s.pending.length) :
    run s (bs.map .ackRead) =
      { s with pending := [], trace := s.trace ++ ackOuts s.connNo s.closed s.pending bs } := by
  induction bs generalizing s with
  | nil =>
    obtain ⟨⟩ := s
    obtain rfl : _ = [] := List.eq_nil_of_length_eq_zero hl.symm
    simp [run, ackOuts]
  | cons b bs ih =>
    cases hp : s.pending with
    | nil => rw [hp] at hl; cases hl
    | cons m rest =>
      rw [hp] at hl
      rw [List.map_cons, run, step_ackRead hm hw hb hp]
      exact (ih { s with buffer := [], pending := rest, trace := _ } hm hw rfl (Nat.succ.inj hl)).trans
        (by simp [ackOuts_cons, hb])

theorem exists_resolve_ackOuts (c : Nat) (closed : List Nat) {ms bs : List Nat} {m : Nat} (hm : m ∈ ms)
    (hl : ms.length ≤ bs.length) (hlive : m ∉ closed) :
    ∃ b ∈ bs, Out.resolve m b ∈ ackOuts c closed ms bs := by
  induction ms generalizing bs with
  | nil => cases hm
  | cons m0 ms ih =>
    cases bs with
    | nil => cases hl
    | cons b0 bs =>
      rw [ackOuts_cons]
      rcases List.mem_cons.1 hm with rfl | hm
      · exact ⟨b0, List.mem_cons_self .., by simp [hlive]⟩
      · obtain ⟨b, hb, h⟩ := ih hm (Nat.le_of_succ_le_succ hl)
        exact ⟨b, List.mem_cons_of_mem _ hb, List.mem_cons_of_mem _ (List.mem_append_right _ h)⟩

end HS.RS
