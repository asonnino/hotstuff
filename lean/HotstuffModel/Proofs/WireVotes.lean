import HotstuffModel.Proofs.NodeExt
/-!
The vote MESSAGES of a node (sent to the next leader, or handled locally when the node is the
next leader itself) are tied to the ghost record `voted b` that `make_vote` leaves: every vote
message is emitted directly on top of a `voted b`, is the vote for exactly that block, signed by
the node, and addressed to the leader of the next round.  The theorems of C03 about `voted`
therefore speak about what is on the wire.
-/
namespace HS
open Node

def Out.isVoteOut : Out → Bool
  | .vote _ _ => true
  | .selfVote _ => true
  | _ => false

/-- What a vote message asks of the history `rest` below it: it sits directly on top of the `voted`
record it belongs to. -/
def Out.onWire (c : Committee) (name : Nat) (rest : List Out) : Out → Prop
  | .vote to v => ∃ b r, rest = .voted b :: r ∧ v = voteFor name b ∧ to = c.leader (b.round + 1) ∧ to ≠ name
  | .selfVote v => ∃ b r, rest = .voted b :: r ∧ v = voteFor name b ∧ name = c.leader (b.round + 1)
  | _ => True

def WireOK (c : Committee) (name : Nat) : List Out → Prop
  | [] => True
  | o :: rest => o.onWire c name rest ∧ WireOK c name rest

theorem Out.onWire_other {c : Committee} {name : Nat} {rest : List Out} {o : Out}
    (ho : o.isVoteOut = false) : o.onWire c name rest := by
  cases o <;> first | trivial | cases ho

/-- Reading `WireOK` at any position of the history (newest first: `h2` happened before `o`). -/
theorem WireOK.split {c : Committee} {name : Nat} {h1 h2 : List Out} {o : Out}
    (h : WireOK c name (h1 ++ o :: h2)) : o.onWire c name h2 := by
  induction h1 with
  | nil => exact h.1
  | cons _ _ ih => exact ih h.2

theorem wireOK_append_other (c : Committee) (name : Nat) (new h : List Out)
    (hn : ∀ o ∈ new, o.isVoteOut = false) (hh : WireOK c name h) : WireOK c name (new ++ h) := by
  induction new with
  | nil => exact hh
  | cons o new ih =>
    exact ⟨Out.onWire_other (hn o (.head _)), ih fun x hx => hn x (.tail _ hx)⟩

/-- The two moves that send a vote (`voteSent`, `voteKept`) do it directly on top of the `voted` record,
in the same round. -/
theorem wire_move {c : Committee} {e : Event} {cur cur' : Option Block} {s s' : Node}
    (m : Move c e cur s cur' s') (hw : WireOK c s.name s.hist) : WireOK c s'.name s'.hist := by
  have other : ∀ {s' : Node} (new : List Out), s'.name = s.name → s'.hist = new ++ s.hist →
      (∀ o ∈ new, o.isVoteOut = false) → WireOK c s'.name s'.hist :=
    fun new hn hh ho => hn ▸ hh ▸ wireOK_append_other c s.name new _ ho hw
  cases m with
  | cert m =>
    have core := m.coreOnly
    obtain ⟨new, hh, isCore⟩ := core.hist
    refine other new core.name hh fun o ho => ?_
    have := isCore o ho
    cases o <;> first | rfl | cases this
  | voteSent b top round other' =>
    obtain ⟨rest, top⟩ := top
    exact ⟨⟨b, rest, top, rfl, round ▸ rfl, round ▸ other'⟩, hw⟩
  | voteKept b top round self =>
    obtain ⟨rest, top⟩ := top
    exact ⟨⟨b, rest, top, rfl, round ▸ self.symm⟩, hw⟩
  | proposalWaits | proposalEnters | loopback | parksBehind | parksUnknown | ancestorFails | stores
  | commitFails | emptyTC | noNextLeader | proposerCleans | helperFails | batchStored | digestBuffered
  | syncResumes | payloadResumes => exact other [] rfl rfl (fun _ h => nomatch h)
  | timerFired | proposalAsks | parksAsks | votes | proposes | helperReplies | syncRetries =>
    exact other [_] rfl rfl (List.forall_mem_singleton.2 rfl)
  | storesChain b b1 b0 =>
    -- not `rfl` for the name: that would compare `beforeCommit …` with `s` field by field
    exact other [.twoChain b0 b1 b, .mempoolCleanup b0.round] (ext_beforeCommit s b0 b1 b).name rfl
      (List.forall_mem_cons.2 ⟨rfl, List.forall_mem_singleton.2 rfl⟩)

theorem wire_delivery {c : Committee} {cur : Option Block} {s s' : Node} (d : Delivery c cur s s')
    (hw : WireOK c s.name s.hist) : WireOK c s'.name s'.hist := by
  cases d with
  | mk b b1 b0 anc =>
    rw [deliver_eq]
    refine wireOK_append_other c _ _ _ (fun o ho => ?_) hw
    obtain ⟨_, _, rfl⟩ := List.mem_map.mp ho
    rfl

theorem wire_step (c : Committee) (s : Node) (e : Event) (hw : WireOK c s.name s.hist) :
    WireOK c (step c s e).name (step c s e).hist :=
  -- no block in flight matters here: `B` is `True`
  step_induct (P := fun s => WireOK c s.name s.hist) (B := fun _ _ => True) (fun _ _ => trivial)
    (fun _ _ => trivial) (fun m h _ => wire_move m h) (fun d h _ => wire_delivery d h) hw

theorem wire_init (c : Committee) (name : Nat) : WireOK c (init c name).name (init c name).hist := by
  rw [init_eq]
  exact proposeIfLeader_cases (P := fun s => WireOK c s.name s.hist) trivial fun _ => ⟨trivial, trivial⟩

theorem reachable_wire (c : Committee) (name : Nat) (es : List Event) :
    WireOK c (run c (init c name) es).name (run c (init c name) es).hist :=
  run_induct (P := fun s => WireOK c s.name s.hist) (wire_step c) (wire_init c name) es

end HS
