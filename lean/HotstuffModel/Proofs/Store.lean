import HotstuffModel.Model.Store
import HotstuffModel.Proofs.Lists
/-!
The store actor (C16): the value of a key after a run is its last write; waiters exist only for keys
without a value; and what one waiter sees of the store (`parked`), followed through a run.
-/
namespace HS.Store
variable {κ ν : Type} [DecidableEq κ]

theorem lookup_put (kv : List (κ × ν)) (k k' : κ) (v : ν) :
    (put kv k v).lookup k' = if k' = k then some v else kv.lookup k' := by
  by_cases h : k' = k
  · simp [put, h]
  · have hb : (k' == k) = false := by simpa using h
    have := lookup_filter (k := k') (p := fun p : κ × ν => !(p.1 == k)) (fun _ => by simp [hb]) kv
    simp [put, List.lookup_cons, h, hb, this]

/- `write`, `read` and `reopen` compute by `rfl`; `notifyRead` depends on whether the key has a value. -/
theorem step_notifyRead_none {s : State κ ν} {k : κ} (w : Nat) (h : get s k = none) :
    step s (.notifyRead k w) = ({ s with obl := s.obl ++ [(k, w)] }, []) := by
  simp [step, h]

theorem step_notifyRead_some {s : State κ ν} {k : κ} {v : ν} (w : Nat) (h : get s k = some v) :
    step s (.notifyRead k w) = (s, [.notified w v]) := by
  simp [step, h]

theorem get_step (s : State κ ν) (c : Cmd κ ν) (k : κ) :
    get (step s c).1 k = upd k (get s k) c := by
  cases c with
  | write k' v => simp [step, get, upd, lookup_put, eq_comm]
  | read k' => rfl
  | notifyRead k' w => simp only [step]; split <;> rfl
  | reopen => rfl

theorem get_run (s : State κ ν) (cs : List (Cmd κ ν)) (k : κ) :
    get (run s cs) k = lastWriteFrom (get s k) k cs := by
  induction cs generalizing s with
  | nil => rfl
  | cons c cs ih => simp only [run, lastWriteFrom, ih, get_step]

theorem run_append (s : State κ ν) (a b : List (Cmd κ ν)) :
    run s (a ++ b) = run (run s a) b := by
  induction a generalizing s with
  | nil => rfl
  | cons c cs ih => simp [run, ih]

theorem trace_append (s : State κ ν) (a b : List (Cmd κ ν)) :
    trace s (a ++ b) = trace s a ++ trace (run s a) b := by
  induction a generalizing s with
  | nil => rfl
  | cons c cs ih => simp [run, trace, ih]

theorem lastWriteFrom_append (acc : Option ν) (k : κ) (a b : List (Cmd κ ν)) :
    lastWriteFrom acc k (a ++ b) = lastWriteFrom (lastWriteFrom acc k a) k b := by
  induction a generalizing acc with
  | nil => rfl
  | cons c cs ih => simp [lastWriteFrom, ih]

theorem upd_no_write (acc : Option ν) (k : κ) (c : Cmd κ ν) (h : Cmd.writes k c = false) :
    upd k acc c = acc := by
  cases c with
  | write k' v => exact if_neg (by simpa [Cmd.writes] using h)
  | _ => rfl

theorem lastWriteFrom_no_write (acc : Option ν) (k : κ) (cs : List (Cmd κ ν))
    (h : ∀ c ∈ cs, Cmd.writes k c = false) : lastWriteFrom acc k cs = acc := by
  induction cs with
  | nil => rfl
  | cons c cs ih =>
    obtain ⟨h1, h2⟩ := List.forall_mem_cons.1 h
    rw [lastWriteFrom, upd_no_write acc k c h1]
    exact ih h2

/-- Every pending waiter waits for a key that has no value. -/
def Inv (s : State κ ν) : Prop := ∀ p ∈ s.obl, get s p.1 = none

theorem inv_init : Inv (init : State κ ν) := nofun

theorem inv_step (s : State κ ν) (c : Cmd κ ν) (h : Inv s) : Inv (step s c).1 := by
  intro p hp
  rw [get_step]
  cases c with
  | write k v =>
    have hp := List.mem_filter.mp hp
    have hne : p.1 ≠ k := by simpa using hp.2
    rw [upd_no_write _ _ _ (by simpa [Cmd.writes] using hne.symm)]
    exact h p hp.1
  | read k => exact h p hp
  | notifyRead k w =>
    cases hg : get s k with
    | none =>
      rw [step_notifyRead_none w hg] at hp
      rcases List.mem_append.mp hp with hp | hp
      · exact h p hp
      · rw [List.mem_singleton.mp hp]; exact hg
    | some v => rw [step_notifyRead_some w hg] at hp; exact h p hp
  | reopen => cases hp

theorem inv_run (s : State κ ν) (cs : List (Cmd κ ν)) (h : Inv s) : Inv (run s cs) := by
  induction cs generalizing s with
  | nil => exact h
  | cons c cs ih => exact ih _ (inv_step s c h)

theorem inv_obligations (s : State κ ν) (h : Inv s) (k : κ) (hk : obligations s k ≠ []) :
    get s k = none := by
  obtain ⟨w, hw⟩ := List.exists_mem_of_ne_nil _ hk
  obtain ⟨p, hp, _⟩ := List.mem_map.mp hw
  have hp := List.mem_filter.mp hp
  rw [← show p.1 = k by simpa using hp.2]
  exact h p hp.1

/-- The keys under which waiter `w` is parked, oldest first: `[]` while it is not waiting, `[k]` after a
`notifyRead k w` that found no value. -/
def parked (s : State κ ν) (w : Nat) : List κ := (s.obl.filter (fun p => p.2 == w)).map Prod.fst

theorem got_map_notified (w : Nat) (v : ν) (l : List Nat) :
    got w (l.map (fun w' => Reply.notified w' v)) = (l.filter (· == w)).map (fun _ => v) := by
  induction l with
  | nil => rfl
  | cons a l ih =>
    unfold got at *
    by_cases h : a = w <;> simp [h, ih]

theorem got_write (s : State κ ν) (k : κ) (v : ν) (w : Nat) :
    got w (step s (.write k v)).2 = ((parked s w).filter (· == k)).map (fun _ => v) := by
  show got w ((obligations s k).map _) = _
  rw [got_map_notified]
  simp only [obligations, parked, List.filter_map, List.map_map, List.filter_filter]
  rw [List.filter_congr (fun p _ => Bool.and_comm ..)]
  rfl

theorem parked_write (s : State κ ν) (k : κ) (v : ν) (w : Nat) :
    parked (step s (.write k v)).1 w = (parked s w).filter (fun k' => !(k' == k)) := by
  simp only [step, parked, List.filter_map, List.filter_filter]
  rw [List.filter_congr (fun p _ => Bool.and_comm ..)]
  rfl

theorem parked_notifyRead_none {s : State κ ν} {k : κ} (w w' : Nat) (h : get s k = none) :
    parked (step s (.notifyRead k w')).1 w = parked s w ++ if w' = w then [k] else [] := by
  rw [step_notifyRead_none w' h]
  by_cases hw : w' = w <;> simp [parked, List.filter_append, hw]

theorem quiet_step (s : State κ ν) (c : Cmd κ ν) (w : Nat) (ks : List κ) (h : parked s w = ks)
    (hw : Cmd.usesWaiter w c = false) (hk : ∀ k ∈ ks, Cmd.writes k c = false)
    (hr : ks = [] ∨ Cmd.isReopen c = false) :
    got w (step s c).2 = [] ∧ parked (step s c).1 w = ks := by
  subst h
  cases c with
  | write k v =>
    have hne : ∀ k' ∈ parked s w, (k' == k) = false := fun k' h => BEq.symm_false (hk k' h)
    rw [got_write, parked_write, List.filter_eq_nil_iff.mpr fun k' h => ne_true_of_eq_false (hne k' h),
      List.filter_eq_self.mpr fun k' h => congrArg not (hne k' h)]
    exact ⟨rfl, rfl⟩
  | read k => exact ⟨rfl, rfl⟩
  | notifyRead k w' =>
    have hne : w' ≠ w := by simpa [Cmd.usesWaiter] using hw
    cases hg : get s k with
    | none => exact ⟨by rw [step_notifyRead_none w' hg]; rfl, by simp [parked_notifyRead_none w w' hg, hne]⟩
    | some v => rw [step_notifyRead_some w' hg]; exact ⟨by simp [got, hne], rfl⟩
  | reopen =>
    rcases hr with h | h
    · exact ⟨rfl, h.symm⟩
    · cases h

theorem quiet_trace (s : State κ ν) (cs : List (Cmd κ ν)) (w : Nat) (ks : List κ) (h : parked s w = ks)
    (hq : ∀ c ∈ cs, Cmd.usesWaiter w c = false ∧ (∀ k ∈ ks, Cmd.writes k c = false) ∧
      (ks = [] ∨ Cmd.isReopen c = false)) :
    (trace s cs).map (got w) = List.replicate cs.length [] ∧ parked (run s cs) w = ks := by
  induction cs generalizing s with
  | nil => exact ⟨rfl, h⟩
  | cons c cs ih =>
    obtain ⟨⟨hw, hk, hr⟩, hcs⟩ := List.forall_mem_cons.1 hq
    have hs := quiet_step s c w ks h hw hk hr
    have := ih (step s c).1 hs.2 hcs
    simp only [trace, run, List.map_cons, List.length_cons, List.replicate_succ, hs.1, this.1]
    exact ⟨trivial, this.2⟩

theorem unparked_trace (s : State κ ν) (cs : List (Cmd κ ν)) (w : Nat) (h : parked s w = [])
    (hw : ∀ c ∈ cs, Cmd.usesWaiter w c = false) :
    (trace s cs).map (got w) = List.replicate cs.length [] ∧ parked (run s cs) w = [] :=
  quiet_trace s cs w [] h fun c hc => ⟨hw c hc, nofun, .inl rfl⟩

theorem notify_parks (k : κ) (w : Nat) (pre mid : List (Cmd κ ν))
    (hpre : ∀ c ∈ pre, Cmd.writes k c = false)
    (hmid : ∀ c ∈ mid, Cmd.writes k c = false ∧ Cmd.isReopen c = false)
    (hfresh : ∀ c ∈ pre ++ mid, Cmd.usesWaiter w c = false) :
    (trace (init : State κ ν) (pre ++ .notifyRead k w :: mid)).map (got w)
      = List.replicate (pre ++ Cmd.notifyRead k w :: mid).length [] ∧
    parked (run (init : State κ ν) (pre ++ .notifyRead k w :: mid)) w = [k] := by
  have h1 := unparked_trace (init : State κ ν) pre w rfl (fun c hc => hfresh c (List.mem_append_left _ hc))
  have hg : get (run (init : State κ ν) pre) k = none := by
    rw [get_run]; exact lastWriteFrom_no_write _ k pre hpre
  have h2 := quiet_trace (step (run (init : State κ ν) pre) (.notifyRead k w)).1 mid w [k]
    (by rw [parked_notifyRead_none w w hg, h1.2, if_pos rfl]; rfl) fun c hc =>
      ⟨hfresh c (List.mem_append_right _ hc), List.forall_mem_singleton.2 (hmid c hc).1, .inr (hmid c hc).2⟩
  rw [trace_append, run_append, List.map_append, h1.1]
  refine ⟨?_, h2.2⟩
  rw [trace, List.map_cons, h2.1, step_notifyRead_none w hg, List.length_append, List.length_cons,
    ← List.replicate_append_replicate]
  rfl

end HS.Store
