import HotstuffModel.Proofs.NodeInv1
import HotstuffModel.Proofs.AggregatorOK
/-!
Inv2: the orderings on the ghost history (newest first), for arbitrary inputs.
-/
namespace HS
open Node

/-- Everything older than a `voted b`, votes and timeouts, is of a lower round than `b`. -/
def votesOrd : List Out → Prop
  | [] => True
  | .voted b :: rest =>
    (∀ b', Out.voted b' ∈ rest → b'.round < b.round) ∧
    (∀ t, Out.timeout t ∈ rest → t.round < b.round) ∧ votesOrd rest
  | _ :: rest => votesOrd rest

def makesOrd : List Out → Prop
  | [] => True
  | .make r _ _ :: rest => (∀ r' q t, Out.make r' q t ∈ rest → r' < r) ∧ makesOrd rest
  | _ :: rest => makesOrd rest

def propsOrd : List Out → Prop
  | [] => True
  | .propose b :: rest => (∀ b', Out.propose b' ∈ rest → b'.round < b.round) ∧ propsOrd rest
  | _ :: rest => propsOrd rest

def enteredOrd : List Out → Prop
  | [] => True
  | .entered r _ :: rest => (∀ r' e, Out.entered r' e ∈ rest → r' < r) ∧ enteredOrd rest
  | _ :: rest => enteredOrd rest

/-- Every timeout carries a QC at least as high as the QC of any block voted for before and as
any QC sent before (in own proposals, earlier timeouts, helper replies). -/
def toutsOrd : List Out → Prop
  | [] => True
  | .timeout t :: rest =>
    (∀ b, Out.voted b ∈ rest → b.qc.round ≤ t.highQC.round) ∧
    (∀ b, Out.propose b ∈ rest → b.qc.round ≤ t.highQC.round) ∧
    (∀ t', Out.timeout t' ∈ rest → t'.highQC.round ≤ t.highQC.round) ∧
    (∀ to b, Out.helperReply to b ∈ rest → b.qc.round ≤ t.highQC.round) ∧ toutsOrd rest
  | _ :: rest => toutsOrd rest

def makeRound : PMsg → Option Nat
  | .make r _ _ => some r
  | .cleanup _ => none

/-- Queue order: an earlier `Make` is for a lower round than a later one. -/
def MakeLt (a b : PMsg) : Prop := ∀ r r', makeRound a = some r → makeRound b = some r' → r < r'

structure Inv2 (s : Node) : Prop where
  votes : votesOrd s.hist
  makes : makesOrd s.hist
  props : propsOrd s.hist
  entered : enteredOrd s.hist
  touts : toutsOrd s.hist
  enteredLe : ∀ r e, Out.entered r e ∈ s.hist → r ≤ s.round
  qSorted : s.propQ.Pairwise MakeLt
  qGt : ∀ b, Out.propose b ∈ s.hist → ∀ r q t, PMsg.make r q t ∈ s.propQ → b.round < r
  qMem : ∀ r qc tc, PMsg.make r qc tc ∈ s.propQ → Out.make r qc tc ∈ s.hist
  propMade : ∀ b, Out.propose b ∈ s.hist → Out.make b.round b.qc b.tc ∈ s.hist

def NoNewMakes (s s' : Node) : Prop := ∀ r q t, Out.make r q t ∈ s'.hist → Out.make r q t ∈ s.hist

theorem NoNewMakes.refl (s : Node) : NoNewMakes s s := fun _ _ _ h => h
theorem NoNewMakes.trans {a b c : Node} (h1 : NoNewMakes a b) (h2 : NoNewMakes b c) : NoNewMakes a c :=
  fun r q t h => h1 r q t (h2 r q t h)

/-- What the five orderings ask of an output that is recorded on top of the history `h`. -/
def Out.after (h : List Out) : Out → Prop
  | .voted b => (∀ b', Out.voted b' ∈ h → b'.round < b.round) ∧ ∀ t, Out.timeout t ∈ h → t.round < b.round
  | .make r _ _ => ∀ r' q t, Out.make r' q t ∈ h → r' < r
  | .propose b => ∀ b', Out.propose b' ∈ h → b'.round < b.round
  | .entered r _ => ∀ r' e, Out.entered r' e ∈ h → r' < r
  | .timeout t =>
    (∀ b, Out.voted b ∈ h → b.qc.round ≤ t.highQC.round) ∧
    (∀ b, Out.propose b ∈ h → b.qc.round ≤ t.highQC.round) ∧
    (∀ t', Out.timeout t' ∈ h → t'.highQC.round ≤ t.highQC.round) ∧
    ∀ to b, Out.helperReply to b ∈ h → b.qc.round ≤ t.highQC.round
  | _ => True

def Ords (h : List Out) : Prop := votesOrd h ∧ makesOrd h ∧ propsOrd h ∧ enteredOrd h ∧ toutsOrd h

theorem ords_cons (o : Out) (h : List Out) : Ords (o :: h) ↔ o.after h ∧ Ords h := by
  -- only the ordering that `o` belongs to gains a head clause (`o.after h`); the other four pass through
  -- (`hv hm hp he ht`: votes, makes, proposals, entered rounds, timeouts)
  cases o with
  | voted b =>
    exact ⟨fun ⟨⟨votes, touts, hv⟩, hm, hp, he, ht⟩ => ⟨⟨votes, touts⟩, hv, hm, hp, he, ht⟩,
      fun ⟨⟨votes, touts⟩, hv, hm, hp, he, ht⟩ => ⟨⟨votes, touts, hv⟩, hm, hp, he, ht⟩⟩
  | make =>
    exact ⟨fun ⟨hv, ⟨head, hm⟩, hp, he, ht⟩ => ⟨head, hv, hm, hp, he, ht⟩,
      fun ⟨head, hv, hm, hp, he, ht⟩ => ⟨hv, ⟨head, hm⟩, hp, he, ht⟩⟩
  | propose =>
    exact ⟨fun ⟨hv, hm, ⟨head, hp⟩, he, ht⟩ => ⟨head, hv, hm, hp, he, ht⟩,
      fun ⟨head, hv, hm, hp, he, ht⟩ => ⟨hv, hm, ⟨head, hp⟩, he, ht⟩⟩
  | entered =>
    exact ⟨fun ⟨hv, hm, hp, ⟨head, he⟩, ht⟩ => ⟨head, hv, hm, hp, he, ht⟩,
      fun ⟨head, hv, hm, hp, he, ht⟩ => ⟨hv, hm, hp, ⟨head, he⟩, ht⟩⟩
  | timeout =>
    exact ⟨fun ⟨hv, hm, hp, he, voted, proposed, touts, replied, ht⟩ =>
        ⟨⟨voted, proposed, touts, replied⟩, hv, hm, hp, he, ht⟩,
      fun ⟨⟨voted, proposed, touts, replied⟩, hv, hm, hp, he, ht⟩ =>
        ⟨hv, hm, hp, he, voted, proposed, touts, replied, ht⟩⟩
  | _ => exact ⟨fun h => ⟨trivial, h⟩, fun h => h.2⟩

/-- The history is newest first: in `h1 ++ o :: h2` everything in `h2` happened BEFORE `o`. -/
theorem Ords.split {h1 h2 : List Out} {o : Out} (h : Ords (h1 ++ o :: h2)) : o.after h2 := by
  induction h1 with
  | nil => exact ((ords_cons o h2).1 h).1
  | cons o' h1 ih => exact ih ((ords_cons o' _).1 h).2

theorem voted_unique_per_round {hist : List Out} (h : Ords hist) {b b' : Block}
    (hb : Out.voted b ∈ hist) (hb' : Out.voted b' ∈ hist) (hr : b.round = b'.round) : b = b' := by
  apply Classical.byContradiction
  intro hne
  rcases mem_order hb hb' (fun e => hne (Out.voted.inj e)) with ⟨h1, h2, rfl, hm⟩ | ⟨h1, h2, rfl, hm⟩
  · have := h.split.1 b' hm; omega
  · have := h.split.1 b hm; omega

theorem timeout_dominates_vote {hist : List Out} (h : Ords hist) {b : Block} {t : Timeout}
    (hb : Out.voted b ∈ hist) (ht : Out.timeout t ∈ hist) (hr : b.round ≤ t.round) :
    b.qc.round ≤ t.highQC.round := by
  rcases mem_order hb ht nofun with ⟨h1, h2, rfl, hm⟩ | ⟨h1, h2, rfl, hm⟩
  · -- the timeout is older than the vote: impossible when b.round ≤ t.round
    have := h.split.2 t hm
    omega
  · exact h.split.1 b hm

/-- What Inv2 asks of an output recorded in round `r` on top of `h`.  A `Make` or an own proposal is not
recorded this way: those go with a change of the proposer's queue. -/
def Out.ok2 (r : Nat) (h : List Out) (o : Out) : Prop :=
  o.after h ∧ match o with
    | .entered r' _ => r' ≤ r
    | .make _ _ _ => False
    | .propose _ => False
    | _ => True

section
variable {s s' : Node}

theorem Inv2.ords (h : Inv2 s) : Ords s.hist := ⟨h.votes, h.makes, h.props, h.entered, h.touts⟩

theorem Inv2.queue (h : Inv2 s) (round : s.round ≤ s'.round) (hist : s'.hist = s.hist)
    (sorted : s'.propQ.Pairwise MakeLt)
    (msgs : ∀ r q t, PMsg.make r q t ∈ s'.propQ → PMsg.make r q t ∈ s.propQ) : Inv2 s' :=
  ⟨hist ▸ h.votes, hist ▸ h.makes, hist ▸ h.props, hist ▸ h.entered, hist ▸ h.touts,
    fun r e hm => Nat.le_trans (h.enteredLe r e (hist ▸ hm)) round, sorted,
    fun b hb r q t hm => h.qGt b (hist ▸ hb) r q t (msgs r q t hm),
    fun r qc tc hm => hist ▸ h.qMem r qc tc (msgs r qc tc hm), fun b hb => hist ▸ h.propMade b (hist ▸ hb)⟩

theorem Inv2.congr (h : Inv2 s) (round : s.round ≤ s'.round := by exact Nat.le_refl _)
    (hist : s'.hist = s.hist := by exact rfl) (msgs : s'.propQ = s.propQ := by exact rfl) : Inv2 s' :=
  h.queue (round := round) (hist := hist) (sorted := msgs ▸ h.qSorted) (msgs := fun _ _ _ hm => msgs ▸ hm)

theorem Inv2.emit (h : Inv2 s) {o : Out} (ho : o.ok2 s.round s.hist) : Inv2 (s.emit o) := by
  have old : ∀ b, Out.propose b ∈ o :: s.hist → Out.propose b ∈ s.hist := by
    intro b hb
    rcases List.mem_cons.mp hb with rfl | hb
    · exact ho.2.elim
    · exact hb
  obtain ⟨o1, o2, o3, o4, o5⟩ := (ords_cons o s.hist).2 ⟨ho.1, h.ords⟩
  refine ⟨o1, o2, o3, o4, o5, ?_, h.qSorted, fun b hb => h.qGt b (old b hb),
    fun r qc tc hm => .tail _ (h.qMem r qc tc hm), fun b hb => .tail _ (h.propMade b (old b hb))⟩
  intro r e hm
  rcases List.mem_cons.mp hm with rfl | hm
  · exact ho.2
  · exact h.enteredLe r e hm

theorem Inv2.record (h : Inv2 s) {o : Out} (round : s'.round = s.round := by exact rfl)
    (hist : s'.hist = o :: s.hist) (msgs : s'.propQ = s.propQ := by exact rfl) (out : o.ok2 s.round s.hist) :
    Inv2 s' :=
  (h.emit out).congr (round := Nat.le_of_eq round.symm) (hist := hist) (msgs := msgs)

theorem Inv2.cleanup (h : Inv2 s) {ds : List Nat} (round : s'.round = s.round := by exact rfl)
    (hist : s'.hist = s.hist := by exact rfl) (msgs : s'.propQ = s.propQ ++ [.cleanup ds]) : Inv2 s' := by
  refine h.queue (round := Nat.le_of_eq round.symm) (hist := hist) (sorted := ?_) (msgs := ?_)
  · rw [msgs, List.pairwise_append]
    refine ⟨h.qSorted, List.pairwise_singleton _ _, ?_⟩
    intro a _ b hb r r' _ hr'
    cases List.mem_singleton.mp hb
    cases hr'
  · intro r q t hm
    rw [msgs] at hm
    rcases List.mem_append.mp hm with hm | hm
    · exact hm
    · cases List.mem_singleton.mp hm

theorem Inv2.pop (h : Inv2 s) {m : PMsg} {rest : List PMsg} (queue : s.propQ = m :: rest)
    (round : s'.round = s.round := by exact rfl) (hist : s'.hist = s.hist := by exact rfl)
    (msgs : s'.propQ = rest) : Inv2 s' :=
  h.queue (round := Nat.le_of_eq round.symm) (hist := hist)
    (sorted := msgs ▸ (List.pairwise_cons.mp (queue ▸ h.qSorted)).2)
    (msgs := fun _ _ _ hm => queue ▸ List.mem_cons_of_mem _ (msgs ▸ hm))

/-- The proposer serves the `Make` at the head of its queue. -/
theorem Inv2.proposes (h : Inv2 s) {r : Nat} {qc : QC} {tc : Option TC} {rest : List PMsg} {b : Block}
    (queue : s.propQ = .make r qc tc :: rest) (round : s'.round = s.round := by exact rfl)
    (hist : s'.hist = .propose b :: s.hist) (block : b.round = r ∧ b.qc = qc ∧ b.tc = tc)
    (msgs : s'.propQ = rest) : Inv2 s' := by
  have head : PMsg.make r qc tc ∈ s.propQ := queue ▸ .head _
  have sorted := List.pairwise_cons.mp (queue ▸ h.qSorted)
  have sub : ∀ {m}, m ∈ s'.propQ → m ∈ s.propQ := fun hm => queue ▸ List.mem_cons_of_mem _ (msgs ▸ hm)
  obtain ⟨rfl, rfl, rfl⟩ := block
  refine ⟨hist ▸ h.votes, hist ▸ h.makes, hist ▸ ⟨fun b' hb' => h.qGt b' hb' _ _ _ head, h.props⟩,
    hist ▸ h.entered, hist ▸ h.touts, ?_, msgs ▸ sorted.2, ?_, ?_, ?_⟩
  · intro r e hm
    rw [hist] at hm
    exact round ▸ h.enteredLe r e ((List.mem_cons.mp hm).resolve_left (fun e => nomatch e))
  · intro b' hb' r' q t hm
    rw [hist] at hb'
    rcases List.mem_cons.mp hb' with hb' | hb'
    · cases hb'
      exact sorted.1 _ (msgs ▸ hm) _ _ rfl rfl
    · exact h.qGt b' hb' r' q t (sub hm)
  · intro r' q t hm
    exact hist ▸ .tail _ (h.qMem r' q t (sub hm))
  · intro b' hb'
    rw [hist] at hb' ⊢
    rcases List.mem_cons.mp hb' with hb' | hb'
    · cases hb'; exact .tail _ (h.qMem _ _ _ head)
    · exact .tail _ (h.propMade b' hb')

theorem inv2_setAgg (a : Aggregator) (h : Inv2 s) : Inv2 { s with agg := a } :=
  h.congr

theorem inv2_advanceRound (r : Nat) (ev : Evidence) (h : Inv2 s) : Inv2 (s.advanceRound r ev) :=
  advanceRound_cases (fun _ => h) fun fresh =>
    (h.congr (s' := { s with round := r + 1, agg := s.agg.cleanup (r + 1) })
      (round := Nat.le_succ_of_le fresh)).emit
      ⟨fun r' e hm => Nat.lt_succ_of_le (Nat.le_trans (h.enteredLe r' e hm) fresh), Nat.le_refl _⟩

theorem inv2_processQC (qc : QC) (h : Inv2 s) : Inv2 (s.processQC qc) :=
  updateHighQC_cases (fun _ => inv2_advanceRound qc.round _ h) fun _ =>
    (inv2_advanceRound qc.round _ h).congr

/-- All earlier `Make`s were for rounds below the current one (so a new one may be issued). -/
def CanPropose (s : Node) : Prop := ∀ r q t, Out.make r q t ∈ s.hist → r < s.round

theorem inv2_generateProposal (tc : Option TC) (h : Inv2 s) (can : CanPropose s) :
    Inv2 (s.generateProposal tc) := by
  have below : ∀ r q t, PMsg.make r q t ∈ s.propQ → r < s.round := fun r q t hm => can _ _ _ (h.qMem _ _ _ hm)
  have old : ∀ b, Out.propose b ∈ Out.make s.round s.highQC tc :: s.hist → Out.propose b ∈ s.hist :=
    fun b hb => (List.mem_cons.mp hb).resolve_left (fun e => nomatch e)
  refine ⟨h.votes, ⟨can, h.makes⟩, h.props, h.entered, h.touts, ?_, ?_, ?_, ?_,
    fun b hb => .tail _ (h.propMade b (old b hb))⟩
  · intro r e hm
    exact h.enteredLe r e ((List.mem_cons.mp hm).resolve_left (fun e => nomatch e))
  · refine List.pairwise_append.2 ⟨h.qSorted, List.pairwise_singleton _ _, ?_⟩
    intro a ha b hb r r' hr hr'
    cases List.mem_singleton.mp hb
    cases hr'
    cases a with
    | make r0 q t => cases hr; exact below _ _ _ ha
    | cleanup _ => cases hr
  · intro b hb r q t hm
    rcases List.mem_append.mp hm with hm | hm
    · exact h.qGt b (old b hb) r q t hm
    · cases List.mem_singleton.mp hm
      exact can _ _ _ (h.propMade b (old b hb))
  · intro r qc tc' hm
    rcases List.mem_append.mp hm with hm | hm
    · exact .tail _ (h.qMem _ _ _ hm)
    · cases List.mem_singleton.mp hm; exact .head _

theorem inv2_proposeIfLeader (c : Committee) (tc : Option TC) (h : Inv2 s) (can : CanPropose s) :
    Inv2 (s.proposeIfLeader c tc) :=
  proposeIfLeader_cases h fun _ => inv2_generateProposal tc h can

theorem noNew_advanceRound (s : Node) (r : Nat) (ev : Evidence) : NoNewMakes s (s.advanceRound r ev) :=
  advanceRound_cases (fun _ => .refl s) fun _ _ _ _ hm =>
    (List.mem_cons.mp hm).resolve_left (fun e => nomatch e)

theorem noNew_processQC (s : Node) (qc : QC) : NoNewMakes s (s.processQC qc) :=
  updateHighQC_cases (fun _ => noNew_advanceRound s _ _) fun _ => noNew_advanceRound s _ _

/-- A round the node has just entered has seen no `Make` yet. -/
theorem canPropose_of (h : Inv1 s) (hn : NoNewMakes s s') (hr : s.round < s'.round) : CanPropose s' :=
  fun r q t hm => Nat.lt_of_le_of_lt (h.makesHist r q t (hn r q t hm)) hr

end

section
variable {c : Committee} {e : Event} {cur cur' : Option Block} {s s' : Node}

theorem inv2_cert (m : CertMove c e s s') (h1 : Inv1 s) (h : Inv2 s) : Inv2 s' := by
  cases m with
  | voteCounted v a => exact inv2_setAgg a h
  | voteCertifies v a qc _ fresh _ add =>
    have fresh : s.round ≤ qc.round := (addVote_some add).2.1 ▸ Nat.le_of_not_lt fresh
    exact inv2_proposeIfLeader c _ (inv2_processQC qc (inv2_setAgg a h))
      (canPropose_of h1 (noNew_processQC { s with agg := a } qc)
        (Nat.lt_of_le_of_lt fresh (processQC_gt { s with agg := a } qc)))
  | timeoutSeen t => exact inv2_processQC _ h
  | timeoutCounted t a => exact inv2_setAgg a (inv2_processQC _ h)
  | timeoutCertifies t a tc _ fresh _ add =>
    have fresh : s.round ≤ tc.round := (addTimeout_some add).1 ▸ Nat.le_of_not_lt fresh
    refine inv2_proposeIfLeader c _
      ((inv2_advanceRound tc.round (.tc tc) (inv2_setAgg a (inv2_processQC _ h))).emit ⟨trivial, trivial⟩)
      (canPropose_of h1 (fun r q t' hm => ?_) ?_)
    · exact noNew_processQC s t.highQC r q t' (noNew_advanceRound { s.processQC t.highQC with agg := a }
        tc.round (.tc tc) r q t' ((List.mem_cons.mp hm).resolve_left (fun e => nomatch e)))
    · -- not by unification: comparing `(x.emit o).round` with `x.round` first tries `x.emit o` against `x`
      rw [emit_round]
      exact Nat.lt_of_le_of_lt fresh (advanceRound_gt _ _ _)
  | tcSeen tc _ _ fresh =>
    exact inv2_proposeIfLeader c _ (inv2_advanceRound _ _ h) (canPropose_of h1 (noNew_advanceRound s _ _)
      (Nat.lt_of_le_of_lt (Nat.le_of_not_lt fresh) (advanceRound_gt s tc.round _)))
  | proposalCerts b =>
    exact advanceTC_cases (inv2_processQC b.qc h) fun _ _ => inv2_advanceRound _ _ (inv2_processQC b.qc h)

theorem inv2_move (m : Move c e cur s cur' s') (h1 : Inv1 s) (h : Inv2 s) : Inv2 s' := by
  cases m with
  | cert m => exact inv2_cert m h1 h
  | proposalWaits | proposalEnters | loopback | parksBehind | parksUnknown | ancestorFails
  | commitFails | emptyTC | noNextLeader | helperFails | batchStored | digestBuffered | syncResumes
  | payloadResumes => exact h.congr
  | timerFired =>
    -- the four clauses of `toutsOrd`: the timeout carries `s.highQC`, and by Inv1 no QC recorded so far is higher
    have votedBelow : ∀ b, Out.voted b ∈ s.hist → b.qc.round ≤ s.highQC.round := by
      intro b hb; obtain ⟨_, _, _, qc_le⟩ := h1.voted b hb; exact qc_le
    have proposedBelow : ∀ b, Out.propose b ∈ s.hist → b.qc.round ≤ s.highQC.round := by
      intro b hb; obtain ⟨_, qc_le⟩ := h1.proposed b hb; exact qc_le
    have toutsBelow : ∀ t, Out.timeout t ∈ s.hist → t.highQC.round ≤ s.highQC.round := by
      intro t ht; obtain ⟨_, qc_le, _⟩ := h1.touts t ht; exact qc_le
    exact h.record (hist := rfl) (out := ⟨⟨votedBelow, proposedBelow, toutsBelow, h1.replied⟩, trivial⟩)
  | votes b _ _ rule1 =>
    have rule1 : s.lastVoted < b.round := by simpa using rule1
    -- first clause of `Inv1.voted` and of `Inv1.touts`: what is recorded is of a round `≤ s.lastVoted`
    exact h.record (hist := rfl) (out := ⟨⟨fun b' hb' => Nat.lt_of_le_of_lt (h1.voted b' hb').1 rule1,
      fun t ht => Nat.lt_of_le_of_lt (h1.touts t ht).1 rule1⟩, trivial⟩)
  | proposalAsks | voteSent | voteKept | syncRetries | helperReplies | parksAsks =>
    exact h.record (hist := rfl) (out := ⟨trivial, trivial⟩)
  | stores => exact h.cleanup (msgs := rfl)
  | storesChain b b1 b0 =>
    have : Inv2 ((afterStore s b0 b1 b).mempoolCleanup b0.round) :=
      (h.cleanup (s' := afterStore s b0 b1 b) (msgs := rfl)).record (hist := rfl) (out := ⟨trivial, trivial⟩)
    exact this.record (hist := rfl) (out := ⟨trivial, trivial⟩)
  | proposerCleans ds rest _ hq => exact h.pop (queue := hq) (msgs := rfl)
  | proposes order r qc tc rest _ hq =>
    exact h.proposes (queue := hq) (hist := rfl) (block := ⟨rfl, rfl, rfl⟩) (msgs := rfl)

theorem inv2_delivery (d : Delivery c cur s s') (h : Inv2 s) : Inv2 s' := by
  cases d with
  | mk b b1 b0 anc =>
    have : ∀ (l : List Block) (s : Node), Inv2 s → Inv2 (l.foldl (fun s x => s.emit (.commit x)) s) := by
      intro l
      induction l with
      | nil => exact fun _ h => h
      | cons a l ih => exact fun s h => ih _ (h.emit ⟨trivial, trivial⟩)
    exact this _ _ h.congr

end

theorem inv2_step (c : Committee) (s : Node) (e : Event) (h1 : Inv1 s) (h : Inv2 s) :
    Inv2 (step c s e) :=
  (step_induct (P := fun s => Inv1 s ∧ Inv2 s) (B := Below) Below.mono (fun m h => inv1_enter m h.1)
    (fun m h hB => ⟨inv1_move m h.1 hB, inv2_move m h.1 h.2⟩)
    (fun d h _ => ⟨inv1_delivery d h.1, inv2_delivery d h.2⟩) ⟨h1, h⟩).2

theorem inv2_init (c : Committee) (name : Nat) : Inv2 (Node.init c name) :=
  init_eq c name ▸ inv2_proposeIfLeader c none
    ⟨trivial, trivial, trivial, trivial, trivial, (fun _ _ h => nomatch h), .nil, (fun _ h => nomatch h),
      (fun _ _ _ h => nomatch h), (fun _ h => nomatch h)⟩ (fun _ _ _ h => nomatch h)

theorem reachable_inv12 (c : Committee) (name : Nat) (es : List Event) :
    Inv1 (Node.run c (Node.init c name) es) ∧ Inv2 (Node.run c (Node.init c name) es) :=
  run_induct (P := fun s => Inv1 s ∧ Inv2 s)
    (fun s e h => ⟨inv1_step c s e h.1, inv2_step c s e h.1 h.2⟩) ⟨inv1_init c name, inv2_init c name⟩ es

end HS
