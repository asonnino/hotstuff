import HotstuffModel.Proofs.NodeExt
import HotstuffModel.Proofs.AggregatorOK
/-!
Inv3: everything the node holds or has acted upon was verified.
Holds for ARBITRARY inputs; "verified" is acceptance by the model's `verify` functions
(whose exact meaning is in Proofs/Verify.lean).
-/
namespace HS
open Node

def QCok (c : Committee) (q : QC) : Prop := q.isGenesis = true ∨ q.verify c = .ok ()
def TCok (c : Committee) (t : Option TC) : Prop := ∀ x, t = some x → x.verify c = .ok ()

/-- What `handle_proposal` establishes before a block may go any further. -/
structure Checked (c : Committee) (b : Block) : Prop where
  leader : b.author = c.leader b.round
  member : b.author ∈ c.keys
  signed : b.sig.valid (.block b.digest) b.author = true
  qc : QCok c b.qc
  tc : TCok c b.tc

/-- The certificate recorded with a round change is for the preceding round and verified. -/
def EvOK (c : Committee) (r : Nat) : Evidence → Prop
  | .qc q => q.round + 1 = r ∧ QCok c q
  | .tc t => t.round + 1 = r ∧ t.verify c = .ok ()

structure Inv3 (c : Committee) (s : Node) : Prop where
  nameMem : s.name ∈ c.keys
  hq : QCok c s.highQC
  agg : AggOK c s.agg
  blocks : ∀ b, b ∈ s.pendingBlocks → Checked c b
  makes : ∀ r qc tc, PMsg.make r qc tc ∈ s.propQ → QCok c qc ∧ TCok c tc ∧ s.name = c.leader r
  voted : ∀ b, Out.voted b ∈ s.hist → Checked c b
  entered : ∀ r ev, Out.entered r ev ∈ s.hist → EvOK c r ev
  proposed : ∀ b, Out.propose b ∈ s.hist → Checked c b ∧ b.author = s.name
  tcs : ∀ t, Out.tc t ∈ s.hist → t.verify c = .ok ()
  touts : ∀ t, Out.timeout t ∈ s.hist →
    QCok c t.highQC ∧ t.author = s.name ∧ t.sig = ⟨s.name, .timeout t.round t.highQC.round⟩
  chains : ∀ b0 b1 blk, Out.twoChain b0 b1 blk ∈ s.hist →
    Checked c blk ∧ (b1 = Block.genesis ∨ Checked c b1)
  replied : ∀ to b, Out.helperReply to b ∈ s.hist → Checked c b

theorem qcok_genesis (c : Committee) : QCok c QC.genesis := Or.inl (by decide)

theorem qcok_of_timeout {c : Committee} {t : Timeout} (ok : t.verify c = .ok ()) : QCok c t.highQC :=
  ((Timeout.verify_ok_iff c t).mp ok).2.2

theorem Checked.of_verify {c : Committee} {b : Block} (ldr : b.author = c.leader b.round)
    (ok : b.verify c = .ok ()) : Checked c b :=
  have ⟨v1, v2, v3, v4⟩ := (Block.verify_ok_iff c b).mp ok
  ⟨ldr, stake_ne_zero_mem c _ v1, v2, v3, v4⟩

/-- What Inv3 asks of a recorded output of the node `name`. -/
def Out.ok3 (c : Committee) (name : Nat) : Out → Prop
  | .voted b => Checked c b
  | .entered r ev => EvOK c r ev
  | .propose b => Checked c b ∧ b.author = name
  | .tc t => t.verify c = .ok ()
  | .timeout t => QCok c t.highQC ∧ t.author = name ∧ t.sig = ⟨name, .timeout t.round t.highQC.round⟩
  | .twoChain _ b1 blk => Checked c blk ∧ (b1 = Block.genesis ∨ Checked c b1)
  | .helperReply _ b => Checked c b
  | _ => True

/-- … of a message queued for the proposer. -/
def PMsg.ok3 (c : Committee) (name : Nat) : PMsg → Prop
  | .make r qc tc => QCok c qc ∧ TCok c tc ∧ name = c.leader r
  | .cleanup _ => True

section
variable {c : Committee} {s s' : Node}

theorem Inv3.update (h : Inv3 c s) (name : s'.name = s.name := by exact rfl) (highQC : QCok c s'.highQC)
    (agg : AggOK c s'.agg) {new : List Out} (hist : s'.hist = new ++ s.hist)
    (outs : ∀ o ∈ new, o.ok3 c s.name := by exact List.forall_mem_nil _)
    (blocks : ∀ b ∈ s'.pendingBlocks, b ∈ s.pendingBlocks ∨ Checked c b := by exact fun _ hb => .inl hb)
    (msgs : ∀ m ∈ s'.propQ, m ∈ s.propQ ∨ m.ok3 c s.name := by exact fun _ hm => .inl hm) : Inv3 c s' := by
  have split : ∀ {o}, o ∈ s'.hist → o ∈ new ∨ o ∈ s.hist := fun ho => List.mem_append.mp (hist ▸ ho)
  -- a new output: `outs` at its constructor is the clause
  exact
    { nameMem := name ▸ h.nameMem, hq := highQC, agg := agg
      blocks := fun b hb => (blocks b hb).elim (h.blocks b) id
      makes := fun r qc tc hm => name ▸ (msgs _ hm).elim (h.makes r qc tc) id
      voted := fun b hb => (split hb).elim (outs _) (h.voted b)
      entered := fun r ev hm => (split hm).elim (outs _) (h.entered r ev)
      proposed := fun b hb => name ▸ (split hb).elim (outs _) (h.proposed b)
      tcs := fun t ht => (split ht).elim (outs _) (h.tcs t)
      touts := fun t ht => name ▸ (split ht).elim (outs _) (h.touts t)
      chains := fun b0 b1 blk hm => (split hm).elim (outs _) (h.chains b0 b1 blk)
      replied := fun to b hb => (split hb).elim (outs _) (h.replied to b) }

theorem Inv3.emit (h : Inv3 c s) {o : Out} (ho : o.ok3 c s.name) : Inv3 c (s.emit o) :=
  h.update (highQC := h.hq) (agg := h.agg) (new := [o]) (hist := rfl) (outs := List.forall_mem_singleton.2 ho)

theorem inv3_setAgg (a : Aggregator) (h : Inv3 c s) (ha : AggOK c a) : Inv3 c { s with agg := a } :=
  h.update (highQC := h.hq) (agg := ha) (new := []) (hist := rfl)

theorem inv3_advanceRound (r : Nat) (ev : Evidence) (h : Inv3 c s) (hev : EvOK c (r + 1) ev) :
    Inv3 c (s.advanceRound r ev) :=
  advanceRound_cases (fun _ => h) fun _ =>
    h.update (highQC := h.hq) (agg := aggOK_cleanup c s.agg h.agg (r + 1)) (new := [_]) (hist := rfl)
      (outs := List.forall_mem_singleton.2 hev)

theorem inv3_processQC (qc : QC) (h : Inv3 c s) (hq : QCok c qc) : Inv3 c (s.processQC qc) :=
  have h := inv3_advanceRound qc.round (.qc qc) h ⟨rfl, hq⟩
  updateHighQC_cases (fun _ => h) fun _ =>
    h.update (highQC := hq) (agg := h.agg) (new := []) (hist := rfl)

theorem inv3_generateProposal (tc : Option TC) (h : Inv3 c s) (htc : TCok c tc)
    (ldr : s.name = c.leader s.round) : Inv3 c (s.generateProposal tc) := by
  refine h.update (highQC := h.hq) (agg := h.agg) (new := [_]) (hist := rfl)
    (outs := List.forall_mem_singleton.2 trivial) (msgs := ?_)
  intro m hm
  refine (List.mem_append.mp hm).imp id fun hm => ?_
  cases List.mem_singleton.mp hm
  exact ⟨h.hq, htc, ldr⟩

variable (c) in
theorem inv3_proposeIfLeader (tc : Option TC) (h : Inv3 c s) (htc : TCok c tc) :
    Inv3 c (s.proposeIfLeader c tc) :=
  proposeIfLeader_cases h (inv3_generateProposal tc h htc)

end

section
variable {c : Committee} {e : Event} {cur cur' : Option Block} {s s' : Node}

theorem inv3_cert (m : CertMove c e s s') (h : Inv3 c s) : Inv3 c s' := by
  cases m with
  | voteCounted v a _ _ ok add => exact inv3_setAgg a h (addVote_ok h.agg ok add).1
  | voteCertifies v a qc _ _ ok add =>
    have := addVote_ok h.agg ok add
    exact inv3_proposeIfLeader c none (inv3_processQC qc (inv3_setAgg a h this.1) (.inr (this.2 qc rfl).1))
      (fun _ e => nomatch e)
  | timeoutSeen t _ _ ok => exact inv3_processQC _ h (qcok_of_timeout ok)
  | timeoutCounted t a _ _ ok add =>
    have h := inv3_processQC _ h (qcok_of_timeout ok)
    exact inv3_setAgg a h (addTimeout_ok h.agg ok add).1
  | timeoutCertifies t a tc _ _ ok add =>
    have h := inv3_processQC _ h (qcok_of_timeout ok)
    have := addTimeout_ok h.agg ok add
    have htc := (this.2 tc rfl).1
    refine inv3_proposeIfLeader c (some tc) ?_ (fun _ e => Option.some.inj e ▸ htc)
    exact (inv3_advanceRound tc.round (.tc tc) (inv3_setAgg a h this.1) ⟨rfl, htc⟩).emit htc
  | tcSeen tc _ ok =>
    exact inv3_proposeIfLeader c (some tc) (inv3_advanceRound _ _ h ⟨rfl, ok⟩) (fun _ e => Option.some.inj e ▸ ok)
  | proposalCerts b _ ldr ok =>
    have := Checked.of_verify ldr ok
    have h := inv3_processQC _ h this.qc
    exact advanceTC_cases h fun t ht => inv3_advanceRound t.round (.tc t) h ⟨rfl, this.tc t ht⟩

theorem inv3_enter {b : Block} (m : Move c e none s (some b) s') (h : Inv3 c s) : Checked c b := by
  cases m with
  | proposalEnters _ _ ldr ok => exact .of_verify ldr ok
  | loopback _ rest _ hq => exact h.blocks b (mem_pendingBlocks.2 (.inl (hq ▸ .head _)))

theorem inv3_move (m : Move c e cur s cur' s') (h : Inv3 c s) (hB : ∀ b, cur = some b → Checked c b) :
    Inv3 c s' := by
  rcases m.quiet with m | q
  · exact inv3_cert m h
  obtain ⟨new, hist, rec⟩ := q.hist
  have own : ∀ {r qc tc} order, PMsg.make r qc tc ∈ s.propQ →
      Checked c (ownBlock s.name r qc tc order) := by
    intro r qc tc order hm
    have := h.makes r qc tc hm
    exact ⟨this.2.2, h.nameMem, by simp [Sig.valid, Block.digest, ownBlock], this.1, this.2.1⟩
  have stored : ∀ {d x}, (d, x) ∈ s.store → Checked c x :=
    fun hx => h.blocks _ (mem_pendingBlocks.2 (.inr (.inr (.inr ⟨_, hx⟩))))
  refine h.update (name := (ext_move m).name) (highQC := q.highQC ▸ h.hq) (agg := q.agg ▸ h.agg) (hist := hist)
    (outs := ?_) (blocks := ?_) (msgs := ?_)
  · intro o ho
    have ro := rec o ho
    cases o with
    | voted b => exact hB b ro.1
    | timeout t => obtain ⟨rfl, _⟩ := ro; exact ⟨h.hq, rfl, rfl⟩
    | twoChain b0 b1 b =>
      obtain ⟨hc, anc, _⟩ := ro
      exact ⟨hB b hc, (getParent_stored anc.1).imp id fun ⟨_, hx⟩ => stored hx⟩
    | propose b => obtain ⟨r, qc, tc, order, hm, rfl⟩ := ro; exact ⟨own order hm, rfl⟩
    | helperReply _ b => obtain ⟨d, hd⟩ := ro; exact stored hd
    | entered | tc => exact ro.elim
    | _ => trivial
  · intro x hx
    refine (m.blocks x hx).imp id ?_
    rintro (hx | ⟨_, ldr, ok, _⟩ | ⟨r, qc, tc, order, hm, rfl⟩)
    · exact hB x hx
    · exact .of_verify ldr ok
    · exact own order hm
  · exact fun x hx => (q.propQ x hx).imp id fun ⟨_, e⟩ => e ▸ trivial

theorem inv3_delivery (d : Delivery c cur s s') (h : Inv3 c s) : Inv3 c s' := by
  cases d with
  | mk b b1 b0 anc =>
    rw [deliver_eq]
    exact h.update (highQC := h.hq) (agg := h.agg) (hist := rfl) (outs := List.forall_mem_map.2 fun _ _ => trivial)

end

theorem inv3_step (c : Committee) (s : Node) (e : Event) (h : Inv3 c s) : Inv3 c (step c s e) :=
  step_induct (B := fun _ => Checked c) (fun _ h => h) inv3_enter inv3_move (fun d h _ => inv3_delivery d h) h

theorem inv3_init (c : Committee) (name : Nat) (hn : name ∈ c.keys) : Inv3 c (Node.init c name) :=
  init_eq c name ▸ inv3_proposeIfLeader c none ⟨hn, qcok_genesis c, aggOK_empty c,
    (fun _ h => nomatch h), (fun _ _ _ h => nomatch h), (fun _ h => nomatch h), (fun _ _ h => nomatch h),
    (fun _ h => nomatch h), (fun _ h => nomatch h), (fun _ h => nomatch h), (fun _ _ _ h => nomatch h),
    (fun _ _ h => nomatch h)⟩ (fun _ e => nomatch e)

end HS
