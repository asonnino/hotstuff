import HotstuffModel.Proofs.Leader
/-!
Rotation versus a set of faulty authorities (C06, L8 and L10), for any sequence `L : Nat → Nat` that differs
on the rounds of each window of `n` (`InjOnWindows`) and, for L10, has period `n`: a set `S` occupies at most
`S.length` rounds of a window, so it cannot hold `S.length + 1` rounds in a row, and when `n > 3 · S.length`
some three consecutive rounds are free of it.  The leader function of a committee is such a sequence
(`leaders_distinct`, `leader_periodic`).
-/
namespace HS

/-- Pigeonhole: in a window of at most `n` rounds the members of `S` lead at most `S.length` of them. -/
theorem count_in_window_le (L : Nat → Nat) (n : Nat) (hinj : InjOnWindows L n) (S : List Nat)
    (a len : Nat) (hlen : len ≤ n) :
    ((List.range' a len).filter (fun x => decide (L x ∈ S))).length ≤ S.length := by
  rw [← List.length_map (f := L)]
  refine List.Nodup.length_le_of_subset (List.pairwise_map.mpr ?_) fun y hy => ?_
  · refine List.Pairwise.imp_of_mem (fun hx hy hne e => hne ?_) (List.Pairwise.filter _ List.nodup_range')
    have hx := List.mem_range'_1.mp (List.mem_filter.mp hx).1
    have hy := List.mem_range'_1.mp (List.mem_filter.mp hy).1
    exact hinj a _ _ hx.1 (Nat.lt_of_lt_of_le hx.2 (Nat.add_le_add_left hlen a)) hy.1
      (Nat.lt_of_lt_of_le hy.2 (Nat.add_le_add_left hlen a)) e
  · obtain ⟨x, hx, rfl⟩ := List.mem_map.mp hy
    simpa using (List.mem_filter.mp hx).2

/-- Any `m` authorities lead at most `m` rounds in a row (when `m < n`): among the rounds
`r0, …, r0 + m` at least one is led by an authority outside the set. -/
theorem exists_outside (L : Nat → Nat) (n : Nat) (hinj : InjOnWindows L n) (S : List Nat)
    (hm : S.length < n) (r0 : Nat) :
    ∃ i, i ≤ S.length ∧ L (r0 + i) ∉ S := by
  have hc := count_in_window_le L n hinj S r0 (S.length + 1) hm
  obtain ⟨x, hx, hxS⟩ := List.length_filter_lt_length_iff_exists.mp
    (Nat.lt_of_le_of_lt hc (by rw [List.length_range']; exact Nat.lt_succ_self _))
  have hx := List.mem_range'_1.mp hx
  exact ⟨x - r0, by omega, by rw [Nat.add_sub_cancel' hx.1]; simpa using hxS⟩

/-- Walking along a stretch of rounds, each marked round costs at most three: with `j` clear rounds behind
us at `a, …, a + j - 1` and `len ≥ 3 · (marked rounds ahead) + 3 - j` rounds ahead, three consecutive clear
rounds are found. -/
theorem exists_three_clear (bad : Nat → Bool) : ∀ (len a j : Nat), (∀ t, t < j → bad (a + t) = false) →
    3 * ((List.range' (a + j) len).filter bad).length + 3 ≤ len + j →
    ∃ i, a ≤ i ∧ bad i = false ∧ bad (i + 1) = false ∧ bad (i + 2) = false := by
  have stop : ∀ a j, (∀ t, t < j → bad (a + t) = false) → 3 ≤ j →
      ∃ i, a ≤ i ∧ bad i = false ∧ bad (i + 1) = false ∧ bad (i + 2) = false :=
    fun a j hj h3 => ⟨a, Nat.le_refl a, hj 0 (Nat.lt_of_lt_of_le (by decide) h3),
      hj 1 (Nat.lt_of_lt_of_le (by decide) h3), hj 2 h3⟩
  intro len
  induction len with
  | zero => exact fun a j hj h => stop a j hj (by simpa using h)
  | succ len ih =>
    intro a j hj h
    by_cases h3 : 3 ≤ j
    · exact stop a j hj h3
    · rw [List.range'_succ] at h
      cases hb : bad (a + j) with
      | true =>
        -- start again behind the marked round
        rw [List.filter_cons_of_pos hb, List.length_cons] at h
        obtain ⟨i, hi, hc⟩ := ih (a + j + 1) 0 (fun t ht => absurd ht (Nat.not_lt_zero t)) (by
          simp only [Nat.add_zero]; omega)
        exact ⟨i, Nat.le_trans (Nat.le_add_right a (j + 1)) hi, hc⟩
      | false =>
        rw [List.filter_cons_of_neg (by simp [hb])] at h
        exact ih a (j + 1) (fun t ht => by
          by_cases e : t = j
          · exact e ▸ hb
          · exact hj t (Nat.lt_of_le_of_ne (Nat.le_of_lt_succ ht) e)) (by rw [← Nat.add_assoc]; omega)

/-- THREE CONSECUTIVE NON-FAULTY LEADERS.  With `n ≥ 3m + 1` authorities, any `m` of them being
faulty, in every window of `n` consecutive rounds a run of three consecutive rounds begins none of
which is led by a faulty authority — the three rounds a 2-chain commit needs.  (The run may end up to
two rounds behind the window: four authorities, the second one faulty.) -/
theorem exists_three_outside (L : Nat → Nat) (n : Nat) (hinj : InjOnWindows L n)
    (hper : ∀ r, L (r + n) = L r) (S : List Nat) (hm : 3 * S.length < n) (r0 : Nat) :
    ∃ i, i < n ∧ L (r0 + i) ∉ S ∧ L (r0 + i + 1) ∉ S ∧ L (r0 + i + 2) ∉ S := by
  have hn : 0 < n := Nat.zero_lt_of_lt hm
  have hper' : ∀ q r, L (r + n * q) = L r := by
    intro q
    induction q with
    | zero => intro r; rfl
    | succ q ih => intro r; rw [Nat.mul_succ, ← Nat.add_assoc, hper, ih]
  -- every round `i ≥ r0` has a copy in the window that starts at `r0`
  have copy : ∀ i t, r0 ≤ i → L (r0 + (i - r0) % n + t) = L (i + t) := fun i t hi => by
    rw [← hper' ((i - r0) / n) (r0 + (i - r0) % n + t)]
    congr 1
    have := Nat.mod_add_div (i - r0) n
    omega
  by_cases hex : ∃ j, L (r0 + j) ∈ S
  · -- cut the rotation at a faulty round: the `n - 1` rounds behind it hold at most `m - 1` faulty ones
    obtain ⟨j, hj⟩ := hex
    obtain ⟨n', rfl⟩ := Nat.exists_eq_succ_of_ne_zero (Nat.ne_of_gt hn)
    have hc := count_in_window_le L (n' + 1) hinj S (r0 + j) (n' + 1) (Nat.le_refl _)
    rw [List.range'_succ, List.filter_cons_of_pos (by simpa using hj), List.length_cons] at hc
    obtain ⟨i, hi, c0, c1, c2⟩ := exists_three_clear (fun x => decide (L x ∈ S)) n' (r0 + j + 1) 0
      (fun t ht => absurd ht (Nat.not_lt_zero t)) (by simp only [Nat.add_zero]; omega)
    refine ⟨(i - r0) % (n' + 1), Nat.mod_lt _ hn, ?_⟩
    have hi : r0 ≤ i := Nat.le_trans (Nat.le_add_right r0 (j + 1)) hi
    rw [copy i 1 hi, copy i 2 hi, show L (r0 + (i - r0) % (n' + 1)) = L i from copy i 0 hi]
    exact ⟨by simpa using c0, by simpa using c1, by simpa using c2⟩
  · -- no faulty leader at all
    exact ⟨0, hn, fun h => hex ⟨0, h⟩, fun h => hex ⟨0 + 1, h⟩, fun h => hex ⟨0 + 2, h⟩⟩

end HS
