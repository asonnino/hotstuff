import HotstuffModel.Model.BatchMaker
/-!
Lemmas about the batch maker (`HS.BM`).  The invariant `Inv` and conservation (what is sealed, followed by
the open batch, is what was open before followed by what was accepted) go through `run` together
(`step_ok`, `run_ok`).  The sample scan of `seal` only ever sees transactions of the open batch and of the
events to come, so a run cannot panic if the scan finds nothing in those (`run_no_panic`).  The batch
decoder reads an encoded batch off the front of any input (`decodeBatchPrefix_encodeBatch`).
-/
namespace HS.BM

def sumLen (l : List (List Nat)) : Nat := (l.map List.length).sum

@[simp] theorem sumLen_nil : sumLen [] = 0 := rfl
theorem sumLen_append (a b : List (List Nat)) : sumLen (a ++ b) = sumLen a + sumLen b := by
  simp [sumLen, List.sum_append]

/-- `size` is the byte size of the open batch, and the open batch is below the threshold
(or empty — the only possibility when `batch_size = 0`). -/
def Inv (cfg : Cfg) (s : State) : Prop :=
  s.size = sumLen s.cur ∧ (s.cur = [] ∨ s.size < cfg.batchSize)

theorem inv_init (cfg : Cfg) : Inv cfg init := ⟨rfl, Or.inl rfl⟩

theorem sealBatch_eq_ok (cfg : Cfg) (s s' : State) (outs : List (List (List Nat))) :
    sealBatch cfg s = .ok (s', outs) ↔
      scanPanics cfg s.cur = false ∧ s' = { cur := [], size := 0 } ∧ outs = [s.cur] := by
  unfold sealBatch
  split
  · simp [*]
  · simp [*, eq_comm]

theorem step_ok (cfg : Cfg) (s s' : State) (e : Ev) (outs : List (List (List Nat)))
    (h : step cfg s e = .ok (s', outs)) :
    (Inv cfg s → Inv cfg s') ∧ outs.flatten ++ s'.cur = s.cur ++ accepted [e] := by
  cases e with
  | tx t =>
    simp only [step] at h
    split at h
    · obtain ⟨-, rfl, rfl⟩ := (sealBatch_eq_ok ..).mp h
      exact ⟨fun _ => ⟨rfl, Or.inl rfl⟩, by simp [accepted]⟩
    · rename_i hlt
      cases h
      exact ⟨fun hi => ⟨by rw [sumLen_append, ← hi.1]; simp [sumLen], Or.inr (by simpa using hlt)⟩,
        by simp [accepted]⟩
  | timer =>
    simp only [step] at h
    split at h
    · obtain ⟨-, rfl, rfl⟩ := (sealBatch_eq_ok ..).mp h
      exact ⟨fun _ => ⟨rfl, Or.inl rfl⟩, by simp [accepted]⟩
    · cases h; exact ⟨id, by simp [accepted]⟩

theorem accepted_append (a b : List Ev) : accepted (a ++ b) = accepted a ++ accepted b := by
  induction a with
  | nil => rfl
  | cons e es ih => cases e <;> simp [accepted, ih]

theorem mem_accepted (es : List Ev) (t : List Nat) : t ∈ accepted es ↔ Ev.tx t ∈ es := by
  induction es with
  | nil => simp [accepted]
  | cons e es ih => cases e <;> simp [accepted, ih]

theorem run_cons_ok (cfg : Cfg) (s s2 : State) (e : Ev) (es : List Ev) (bs : List (List (List Nat))) :
    run cfg s (e :: es) = .ok (s2, bs) ↔
      ∃ s1 o bs', step cfg s e = .ok (s1, o) ∧ run cfg s1 es = .ok (s2, bs') ∧ bs = o ++ bs' := by
  rw [run]
  cases step cfg s e with
  | error p => exact ⟨nofun, fun ⟨_, _, _, h, _⟩ => nomatch h⟩
  | ok r =>
    obtain ⟨s1, o⟩ := r
    dsimp only
    constructor
    · intro h
      cases hr : run cfg s1 es with
      | error p => rw [hr] at h; cases h
      | ok r' => rw [hr] at h; cases h; exact ⟨_, _, _, rfl, hr, rfl⟩
    · rintro ⟨_, _, _, h1, h2, rfl⟩
      cases h1; rw [h2]

theorem run_ok (cfg : Cfg) (s s' : State) (es : List Ev) (bs : List (List (List Nat)))
    (hi : Inv cfg s) (h : run cfg s es = .ok (s', bs)) :
    Inv cfg s' ∧ bs.flatten ++ s'.cur = s.cur ++ accepted es := by
  induction es generalizing s bs with
  | nil => cases h; exact ⟨hi, by simp [accepted]⟩
  | cons e es ih =>
    obtain ⟨s1, o, bs', h1, h2, rfl⟩ := (run_cons_ok ..).mp h
    obtain ⟨i1, c1⟩ := step_ok cfg s s1 e o h1
    obtain ⟨i2, c2⟩ := ih s1 bs' (i1 hi) h2
    refine ⟨i2, ?_⟩
    rw [List.flatten_append, List.append_assoc, c2, ← List.append_assoc, c1, List.append_assoc,
      ← accepted_append]
    rfl

theorem run_append_ok (cfg : Cfg) (s : State) (a b : List Ev) (s2 : State) (bs : List (List (List Nat)))
    (h : run cfg s (a ++ b) = .ok (s2, bs)) :
    ∃ s1 b1 b2, run cfg s a = .ok (s1, b1) ∧ run cfg s1 b = .ok (s2, b2) ∧ bs = b1 ++ b2 := by
  induction a generalizing s bs with
  | nil => exact ⟨s, [], bs, rfl, h, rfl⟩
  | cons e es ih =>
    obtain ⟨s1, o, bs', h1, h2, rfl⟩ := (run_cons_ok ..).mp h
    obtain ⟨t1, c1, c2, k1, k2, rfl⟩ := ih s1 bs' h2
    exact ⟨t1, o ++ c1, c2, (run_cons_ok ..).mpr ⟨s1, o, c1, h1, k1, rfl⟩, k2,
      (List.append_assoc ..).symm⟩

theorem scanPanics_append (cfg : Cfg) (a b : List (List Nat)) :
    scanPanics cfg (a ++ b) = (scanPanics cfg a || scanPanics cfg b) := by
  simp [scanPanics, Bool.and_or_distrib_left]

theorem step_no_panic (cfg : Cfg) (s : State) (e : Ev)
    (h : scanPanics cfg (s.cur ++ accepted [e]) = false) : ∃ r, step cfg s e = .ok r := by
  cases e with
  | tx t =>
    simp only [step]
    split
    · exact ⟨_, (sealBatch_eq_ok ..).mpr ⟨h, rfl, rfl⟩⟩
    · exact ⟨_, rfl⟩
  | timer =>
    simp only [step]
    split
    · exact ⟨_, (sealBatch_eq_ok ..).mpr ⟨by simpa [accepted] using h, rfl, rfl⟩⟩
    · exact ⟨_, rfl⟩

theorem run_no_panic (cfg : Cfg) (s : State) (es : List Ev)
    (h : scanPanics cfg (s.cur ++ accepted es) = false) : ∃ r, run cfg s es = .ok r := by
  induction es generalizing s with
  | nil => exact ⟨_, rfl⟩
  | cons e es ih =>
    rw [show accepted (e :: es) = accepted [e] ++ accepted es from accepted_append [e] es,
      ← List.append_assoc, scanPanics_append, Bool.or_eq_false_iff] at h
    obtain ⟨hstep, hlater⟩ := h
    obtain ⟨⟨s1, o⟩, h1⟩ := step_no_panic cfg s e hstep
    -- the batch left open by the step is part of what was there before it
    rw [← (step_ok cfg s s1 e o h1).2, scanPanics_append, Bool.or_eq_false_iff] at hstep
    obtain ⟨⟨s2, bs⟩, h2⟩ := ih s1 (by rw [scanPanics_append, hstep.2, hlater]; rfl)
    exact ⟨_, (run_cons_ok ..).mpr ⟨s1, o, bs, h1, h2, rfl⟩⟩

/-- The eight bytes are the base-256 digits of `n`: `Nat.mod_mul` folds them back, lowest first,
into `n % 256 ^ 8`. -/
theorem unle64_le64 (n : Nat) (h : n < 2 ^ 64) (rest : List Nat) :
    unle64 (le64 n ++ rest) = some (n, rest) := by
  simp only [le64, unle64, List.cons_append, List.nil_append, ← Nat.mod_mul, Nat.reduceMul]
  rw [Nat.mod_eq_of_lt h]

theorem decodeTxs_encodeTxs (batch : List (List Nat)) (rest : List Nat)
    (h : ∀ t ∈ batch, t.length < 2 ^ 64) :
    decodeTxs batch.length (encodeTxs batch ++ rest) = some (batch, rest) := by
  induction batch with
  | nil => rfl
  | cons t ts ih =>
    rw [List.forall_mem_cons] at h
    simp only [encodeTxs, List.length_cons, decodeTxs, List.append_assoc]
    rw [unle64_le64 _ h.1]
    simp [ih h.2]

theorem decodeBatchPrefix_encodeBatch (batch : List (List Nat)) (rest : List Nat)
    (hn : batch.length < 2 ^ 64) (ht : ∀ t ∈ batch, t.length < 2 ^ 64) :
    decodeBatchPrefix (encodeBatch batch ++ rest) = some (batch, rest) := by
  simp only [encodeBatch, decodeBatchPrefix, List.cons_append, List.nil_append, List.append_assoc]
  rw [unle64_le64 _ hn]
  exact decodeTxs_encodeTxs batch rest ht

end HS.BM
