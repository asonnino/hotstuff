import HotstuffModel.Model.Committee
import HotstuffModel.Proofs.Weight
/-!
`Committee.weight` is `Q.weight` of the stake function; stake outside the committee is zero; the quorum
threshold is positive.
-/
namespace HS

theorem Committee.weight_eq (c : Committee) (l : List Nat) : c.weight l = Q.weight c.stake l := rfl

theorem Committee.weight_append_single (c : Committee) (l : List Nat) (a : Nat) :
    c.weight (l ++ [a]) = c.weight l + c.stake a :=
  Q.weight_append c.stake l [a]

theorem lookup_none_of_not_mem {l : List (Nat × Nat)} {k : Nat} (h : k ∉ l.map Prod.fst) :
    l.lookup k = none :=
  List.lookup_eq_none_iff.mpr fun _ hp => bne_iff_ne.mpr fun e => h (e ▸ List.mem_map_of_mem hp)

theorem Committee.stake_unknown (c : Committee) (k : Nat) (h : k ∉ c.keys) :
    c.stake k = Gen.unknownStakeConsensus := by
  unfold Committee.stake
  rw [lookup_none_of_not_mem h]

theorem stake_ne_zero_mem (c : Committee) (k : Nat) (h : c.stake k ≠ 0) : k ∈ c.keys :=
  Classical.byContradiction fun hn => h (c.stake_unknown k hn)

theorem Committee.stakeMempool_unknown (c : Committee) (k : Nat) (h : k ∉ c.keys) :
    c.stakeMempool k = Gen.unknownStakeMempool := by
  unfold Committee.stakeMempool
  rw [lookup_none_of_not_mem h]

theorem Committee.stake_of_mem (c : Committee) (h : c.WF) {k s : Nat} (hm : (k, s) ∈ c.auths) :
    c.stake k = s := by
  obtain ⟨l1, l2, e⟩ := List.append_of_mem hm
  have hnd : (l1.map Prod.fst ++ k :: l2.map Prod.fst).Nodup := by
    simpa [Committee.WF, Committee.keys, e] using h
  -- the entry is the first under its key: no earlier entry has that key
  have : c.auths.lookup k = some s := List.lookup_eq_some_iff.mpr ⟨l1, l2, e, fun p hp =>
    bne_iff_ne.mpr fun ek => (List.nodup_append.mp hnd).2.2 _ (List.mem_map_of_mem hp) _
      List.mem_cons_self ek.symm⟩
  unfold Committee.stake
  rw [this]

theorem Committee.weight_keys (c : Committee) (h : c.WF) : Q.weight c.stake c.keys = c.total := by
  unfold Q.weight Committee.keys Committee.total
  rw [List.map_map]
  exact congrArg List.sum (List.map_congr_left fun p hp => c.stake_of_mem h hp)

theorem quorum_pos (c : Committee) : 1 ≤ c.quorum := by
  unfold Committee.quorum Gen.qtConsensus; omega

end HS
