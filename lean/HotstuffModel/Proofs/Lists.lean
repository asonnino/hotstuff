/-!
Facts about lists and association lists that several models need.
-/
namespace HS

theorem mem_of_lookup {α β : Type} [BEq α] [LawfulBEq α] {l : List (α × β)} {k : α} {b : β}
    (h : l.lookup k = some b) : (k, b) ∈ l := by
  obtain ⟨l1, l2, rfl, _⟩ := List.lookup_eq_some_iff.mp h
  simp

theorem lookup_isSome_cons {α β : Type} [BEq α] (l : List (α × β)) (k : α) (e : α × β)
    (h : (l.lookup k).isSome = true) : ((e :: l).lookup k).isSome = true := by
  obtain ⟨a, b⟩ := e
  rw [List.lookup_cons]
  split
  · rfl
  · exact h

theorem getD_lookup_ind {α β : Type} [BEq α] [LawfulBEq α] {l : List (α × β)} {k : α} {d : β}
    {P : β → Prop} (hd : P d) (hl : ∀ b, (k, b) ∈ l → P b) : P ((l.lookup k).getD d) := by
  cases h : l.lookup k with
  | none => exact hd
  | some b => exact hl b (mem_of_lookup h)

theorem lookup_filter {α β : Type} [BEq α] [LawfulBEq α] {p : α × β → Bool} {k : α}
    (hp : ∀ b, p (k, b) = true) (l : List (α × β)) : (l.filter p).lookup k = l.lookup k := by
  induction l with
  | nil => rfl
  | cons e l ih =>
    obtain ⟨k₁, b⟩ := e
    by_cases he : k = k₁
    · subst he; simp [hp]
    · have he : (k == k₁) = false := beq_false_of_ne he
      cases hpe : p (k₁, b) <;> simp [hpe, List.lookup_cons, he, ih]

theorem mem_cons_filter {α : Type} {p : α → Bool} {a x : α} {l : List α} (h : x ∈ a :: l.filter p) :
    x = a ∨ x ∈ l :=
  (List.mem_cons.mp h).imp_right fun h => (List.mem_filter.mp h).1

theorem mem_snoc {α : Type} {l : List α} {a x : α} (h : x ∈ l ++ [a]) : x ∈ l ∨ x = a :=
  (List.mem_append.mp h).imp_right List.mem_singleton.mp

theorem mem_order {α : Type} {l : List α} {x y : α} (hx : x ∈ l) (hy : y ∈ l) (hne : x ≠ y) :
    (∃ h1 h2, l = h1 ++ x :: h2 ∧ y ∈ h2) ∨ (∃ h1 h2, l = h1 ++ y :: h2 ∧ x ∈ h2) := by
  obtain ⟨s, t, rfl⟩ := List.append_of_mem hx
  rcases List.mem_append.mp hy with hs | ht
  · obtain ⟨s1, s2, rfl⟩ := List.append_of_mem hs
    exact .inr ⟨s1, s2 ++ x :: t, List.append_assoc .., by simp⟩
  · exact .inl ⟨s, t, rfl, (List.mem_cons.mp ht).resolve_left (Ne.symm hne)⟩

theorem eq_of_pairwise_ne {α β : Type} {f : α → β} {l : List α} (h : l.Pairwise fun a b => f a ≠ f b)
    {x y : α} (hx : x ∈ l) (hy : y ∈ l) (e : f x = f y) : x = y :=
  List.Pairwise.forall_of_forall_of_flip (R := fun a b => f a = f b → a = b) (fun _ _ _ => rfl)
    (h.imp fun hne e => absurd e hne) (h.imp fun hne e => absurd e.symm hne) hx hy e

end HS
