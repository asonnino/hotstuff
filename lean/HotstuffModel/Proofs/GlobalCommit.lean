import HotstuffModel.Proofs.Bridge
import HotstuffModel.Proofs.CommitSeq
import HotstuffModel.Properties.C01
/-!
C02, global part: in every reachable global state the delivery sequence of every honest node is
its committed chain from genesis — each delivered block's parent is the block delivered just
before it.  Combines the per-step specification of the commit channel (CommitSeq) with agreement.
Such a log is the hash chain of its newest delivery (`ChainFromGenesis.chain`); prefix consistency
(`C02.delivery_logs_prefix_consistent`) rests on that: agreement puts the newest deliveries of two
nodes on one chain, and the chain of a member of a chain is a suffix of it.
-/
namespace HS
open Node

/-- Oldest first: the first block sits on genesis and every block's parent hash is the digest of
the block delivered before it. -/
def ChainFromGenesis : List Block → Prop
  | [] => True
  | x :: l => x.qc.hash = Digest.zero ∧ Linked (x :: l)

theorem ChainFromGenesis.linked : ∀ {L : List Block}, ChainFromGenesis L → Linked L
  | [], _ => trivial
  | _ :: _, h => h.2

theorem linked_append {x : Block} {A B : List Block} (hA : Linked (x :: A)) (hB : Linked B)
    (hj : ∀ a b, (x :: A).getLast? = some a → B.head? = some b → b.qc.hash = a.digest) :
    Linked (x :: A ++ B) := by
  induction A generalizing x with
  | nil =>
    cases B with
    | nil => trivial
    | cons y B => exact ⟨hj x y rfl rfl, hB⟩
  | cons x' A ih =>
    exact ⟨hA.1, ih hA.2 fun a b ha hb => hj a b (by rwa [List.getLast?_cons_cons]) hb⟩

theorem linked_rounds_increase {D : List Block} (hl : Linked D)
    (hc : ∀ x ∈ D, dRound x.qc.hash < x.round) : D.Pairwise (fun x y => x.round < y.round) := by
  induction D with
  | nil => exact .nil
  | cons x D ih =>
    cases D with
    | nil => exact List.pairwise_singleton _ _
    | cons y D =>
      have ih := ih hl.2 fun z hz => hc z (.tail _ hz)
      have hxy : x.round < y.round := by
        have := hc y (.tail _ (.head _))
        rwa [hl.1] at this
      refine .cons (fun z hz => ?_) ih
      rcases List.mem_cons.mp hz with rfl | hz
      · exact hxy
      · exact Nat.lt_trans hxy ((List.pairwise_cons.mp ih).1 z hz)

theorem ChainFromGenesis.append {A D : List Block} (hA : ChainFromGenesis A) (hD : Linked D)
    (hj : ∀ first, D.head? = some first →
      first.qc.hash = (A.getLast?.map Block.digest).getD .zero) : ChainFromGenesis (A ++ D) := by
  cases A with
  | nil =>
    cases D with
    | nil => trivial
    | cons first rest => exact ⟨hj first rfl, hD⟩
  | cons x A =>
    refine ⟨hA.1, linked_append hA.2 hD fun a b ha hb => ?_⟩
    rw [hj b hb, ha]; rfl

theorem linked_chain {x b : Block} {l : List Block} (hl : Linked (x :: l))
    (hb : (x :: l).getLast? = some b) :
    b.digest.chain = ((x :: l).map Block.digest).reverse ++ x.qc.hash.chain := by
  induction l generalizing x with
  | nil => cases hb; rfl
  | cons y l ih =>
    rw [ih hl.2 (by rwa [List.getLast?_cons_cons] at hb), hl.1, List.map_cons (a := x),
      List.reverse_cons, List.append_assoc]
    rfl

theorem ChainFromGenesis.chain {L : List Block} {b : Block} (h : ChainFromGenesis L)
    (hb : L.getLast? = some b) : b.digest.chain = (L.map Block.digest).reverse := by
  cases L with
  | nil => cases hb
  | cons x l => rw [linked_chain h.2 hb, h.1]; exact List.append_nil _

theorem delivered_is_certified (X : World) (G : GState) (hR : Reach X G) (i : Nat) (hi : X.honest i)
    (x : Block) (hx : Out.commit x ∈ (G i).hist) :
    Abs.Certified (absCtx X) (absHist X G) x.digest :=
  (C01.delivered_is_committed X G hR i hi x hx).certified (reach_localInv X G hR) rfl
    x.digest_ne_zero

/-- The junction: a delivered block that attaches at or below the round of a delivered block of
lower round — at whichever honest nodes — has that block as its parent. -/
theorem delivered_junction (X : World) (G : GState) (hR : Reach X G) (i j : Nat)
    (hi : X.honest i) (hj : X.honest j) (x y : Block)
    (hx : Out.commit x ∈ (G i).hist) (hy : Out.commit y ∈ (G j).hist) (hlt : y.round < x.round)
    (hatt : x.round = y.round + 1 ∨ dRound x.qc.hash ≤ y.round) : x.qc.hash = y.digest :=
  have L := reach_localInv X G hR
  Abs.junction L rfl (delivered_is_certified X G hR i hi x hx)
    (delivered_is_certified X G hR j hj y hy)
    (Abs.agreement _ _ _ L (C01.delivered_is_committed X G hR i hi x hx)
      (C01.delivered_is_committed X G hR j hj y hy)) hlt hatt

theorem delivered_first (X : World) (G : GState) (hR : Reach X G) (i : Nat) (hi : X.honest i)
    (x : Block) (hx : Out.commit x ∈ (G i).hist) (hatt : x.round = 1 ∨ dRound x.qc.hash = 0) :
    x.qc.hash = .zero :=
  Abs.junction_first (reach_localInv X G hR) (delivered_is_certified X G hR i hi x hx) hatt

structure GoodLog (s : Node) : Prop where
  chain : ChainFromGenesis (commitsOf s.hist).reverse
  watermark : s.lastCommitted = ((commitsOf s.hist).head?.map (·.round)).getD 0

theorem goodLog_init (c : Committee) (i : Nat) : GoodLog (Node.init c i) := by
  unfold Node.init
  split <;> exact ⟨trivial, rfl⟩

theorem GoodLog.append {s s' : Node} (h : GoodLog s) (hc : CSpec s s')
    (junction : ∀ x y, Out.commit x ∈ s'.hist → Out.commit y ∈ s'.hist → y.round < x.round →
      (x.round = y.round + 1 ∨ dRound x.qc.hash ≤ y.round) → x.qc.hash = y.digest)
    (junctionFirst : ∀ x, Out.commit x ∈ s'.hist → (x.round = 1 ∨ dRound x.qc.hash = 0) →
      x.qc.hash = .zero) : GoodLog s' := by
  obtain ⟨D, hD, hempty, hne⟩ := hc.run
  cases D with
  | nil => exact ⟨by rw [hD]; exact h.chain, by rw [hD, hempty rfl]; exact h.watermark⟩
  | cons first rest =>
    obtain ⟨hl, ⟨last, hlast, hlc⟩, hall, _, _, hDeq, hatt⟩ := hne (List.cons_ne_nil _ _)
    cases hDeq
    have hmem : ∀ {x}, x ∈ (first :: rest).reverse ++ commitsOf s.hist → Out.commit x ∈ s'.hist :=
      fun hx => mem_commitsOf.mp (hD ▸ hx)
    have hfirst := hmem (List.mem_append_left _ (List.mem_reverse.mpr (.head _)))
    have hatt := hatt.imp_right fun ⟨p, hp, hpr⟩ => hp.round ▸ hpr
    constructor
    · rw [hD, List.reverse_append, List.reverse_reverse]
      refine h.chain.append hl fun f hf => ?_
      cases hf
      rw [List.getLast?_reverse]
      -- the run attaches at the watermark, which is the round of the newest old delivery
      rw [h.watermark] at hatt hall
      cases hold : commitsOf s.hist with
      | nil =>
        rw [hold] at hatt
        exact junctionFirst first hfirst (hatt.imp_right Nat.eq_zero_of_le_zero)
      | cons prev older =>
        rw [hold] at hatt hall
        exact junction first prev hfirst (hmem (List.mem_append_right _ (hold ▸ .head _)))
          (hall first (.head _)).1 hatt
    · rw [hD, hlc, List.head?_append, List.head?_reverse, hlast]; rfl

theorem reach_goodLog (X : World) (G : GState) (hR : Reach X G) : ∀ i, X.honest i → GoodLog (G i) := by
  induction hR with
  | init => intro i _; exact goodLog_init X.c i
  | step G j e hr hj hev ih =>
    intro i hi
    by_cases hij : i = j
    · subst hij
      -- agreement is used in the NEW state, where old and new deliveries stand side by side
      have hR' := Reach.step G i e hr hi hev
      obtain ⟨_, _, _, inv4, _⟩ := reach_local X G hr i hi
      have hc : CSpec (G i) (upd G i (step X.c (G i) e) i) := by
        rw [upd_same]; exact cspec_step X.c (G i) e inv4
      exact (ih i hi).append hc (delivered_junction X _ hR' i i hi hi) (delivered_first X _ hR' i hi)
    · rw [upd_other _ _ _ _ hij]; exact ih i hi

end HS
