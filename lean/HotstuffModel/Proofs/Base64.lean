import HotstuffModel.Model.Base64
import HotstuffModel.Model.Json
import HotstuffModel.Proofs.Bytes
/-!
The JSON string layer, the base64 model and the key codecs.  The base64 round trip has three layers: the
64-entry symbol table (`decSym_encSym`), the three group decoders on symbols (`quad_encSym`, `tail2_encSym`,
`tail3_encSym`), and the arithmetic of moving bits between bytes and 6-bit groups, once (`split_merge`).
The alphabet of base64 text (`isAlphabet`) is what the encoder emits, what the decoder accepts, plain ASCII
and free of the characters JSON escapes.
-/
namespace HS.Wire.Json

theorem needsEscape_eq_false {c : UInt8} :
    needsEscape c = false ↔ c ≠ quote ∧ c ≠ backslash ∧ 32 ≤ c.toNat := by
  simp [needsEscape, and_assoc]

theorem escapeByte_of_safe {c : UInt8} (h : needsEscape c = false) : escapeByte c = [c] := by
  obtain ⟨h1, h2, h3⟩ := needsEscape_eq_false.1 h
  -- the bytes with an escape of their own (8, 9, 10, 12, 13) are control bytes
  have ne : ∀ k : UInt8, k.toNat < 32 → c ≠ k := fun k hk e => by subst e; omega
  rw [escapeByte, if_neg h1, if_neg h2, if_neg (ne 8 (by decide)), if_neg (ne 9 (by decide)),
    if_neg (ne 10 (by decide)), if_neg (ne 12 (by decide)), if_neg (ne 13 (by decide)), if_neg (by omega)]

theorem escape_id (s : List UInt8) (h : ∀ c ∈ s, needsEscape c = false) :
    (s.map escapeByte).flatten = s := by
  rw [List.map_congr_left fun c hc => escapeByte_of_safe (h c hc), ← List.flatMap_def,
    List.flatMap_singleton']

theorem scan_safe (s rest : List UInt8) (h : ∀ c ∈ s, needsEscape c = false) :
    scan (s ++ quote :: rest) = some (s, rest) := by
  induction s with
  | nil => simp [scan]
  | cons c s ih =>
    rw [List.forall_mem_cons] at h
    obtain ⟨h1, h2, h3⟩ := needsEscape_eq_false.1 h.1
    rw [List.cons_append, scan, if_neg h1, if_neg (by simp [h2]; omega), ih h.2]

theorem readStr_writeStr (s rest : List UInt8) (h : ∀ c ∈ s, needsEscape c = false) :
    readStr (writeStr s ++ rest) = some (s, rest) := by
  unfold writeStr
  rw [escape_id s h]
  simp only [List.cons_append, readStr, if_pos, List.append_assoc]
  exact scan_safe s rest h

end HS.Wire.Json

namespace HS.Wire.Base64

/-- The table.  `+kernel`: 64 closed cases, evaluated by the kernel alone (the elaborator's own
evaluation is slow). -/
theorem decSym_encSym : ∀ s, s < 64 → decSym (encSym s) = some s := by decide +kernel

theorem encSym_ne_pad (s : Nat) : encSym s ≠ pad := fun hc => by
  by_cases h : s < 64
  · have := decSym_encSym s h
    rw [hc] at this
    cases this
  · -- beyond the table `encSym` returns `'/'`
    rw [encSym, if_neg (by omega), if_neg (by omega), if_neg (by omega), if_neg (by omega)] at hc
    exact absurd hc (by decide)

/-- Outside `'+' … 'z'`, and at the backslash, there is no symbol. -/
theorem decSym_eq_none {c : UInt8} (h : c.toNat < 43 ∨ 122 < c.toNat ∨ c.toNat = 92) : decSym c = none := by
  simp only [decSym]
  rw [if_neg (by omega), if_neg (by omega), if_neg (by omega), if_neg (by omega), if_neg (by omega)]

theorem quad_encSym {w x y z : Nat} (hw : w < 64) (hx : x < 64) (hy : y < 64) (hz : z < 64) :
    quad (encSym w) (encSym x) (encSym y) (encSym z) =
      some [UInt8.ofNat (w * 4 + x / 16), UInt8.ofNat (x % 16 * 16 + y / 4), UInt8.ofNat (y % 4 * 64 + z)] := by
  rw [quad, decSym_encSym w hw, decSym_encSym x hx, decSym_encSym y hy, decSym_encSym z hz]
  rfl

theorem tail2_encSym {w x : Nat} (hw : w < 64) (hx : x < 64) (h0 : x % 16 = 0) :
    tail2 (encSym w) (encSym x) = some [UInt8.ofNat (w * 4 + x / 16)] := by
  rw [tail2, decSym_encSym w hw, decSym_encSym x hx]
  exact if_pos h0

theorem tail3_encSym {w x y : Nat} (hw : w < 64) (hx : x < 64) (hy : y < 64) (h0 : y % 4 = 0) :
    tail3 (encSym w) (encSym x) (encSym y) =
      some [UInt8.ofNat (w * 4 + x / 16), UInt8.ofNat (x % 16 * 16 + y / 4)] := by
  rw [tail3, decSym_encSym w hw, decSym_encSym x hx, decSym_encSym y hy]
  exact if_pos h0

theorem split_merge {hi lo k m : Nat} (hhi : hi < k) (hlo : lo < m) :
    hi * m + lo < k * m ∧ (hi * m + lo) / m = hi ∧ (hi * m + lo) % m = lo := by
  have hm : 0 < m := Nat.lt_of_le_of_lt (Nat.zero_le _) hlo
  refine ⟨Nat.lt_of_lt_of_le (Nat.add_lt_add_left hlo _) (Nat.succ_mul hi m ▸ Nat.mul_le_mul_right m hhi), ?_, ?_⟩
  · rw [Nat.mul_comm, Nat.mul_add_div hm, Nat.div_eq_of_lt hlo]; rfl
  · rw [Nat.mul_comm, Nat.mul_add_mod, Nat.mod_eq_of_lt hlo]

theorem quad_enc (a b c : UInt8) :
    quad (encSym (a.toNat / 4)) (encSym (a.toNat % 4 * 16 + b.toNat / 16))
      (encSym (b.toNat % 16 * 4 + c.toNat / 64)) (encSym (c.toNat % 64)) = some [a, b, c] := by
  obtain ⟨hx, x1, x0⟩ := split_merge (Nat.mod_lt a.toNat (by decide : 0 < 4))
    (Nat.div_lt_of_lt_mul b.toNat_lt : b.toNat / 16 < 16)
  obtain ⟨hy, y1, y0⟩ := split_merge (Nat.mod_lt b.toNat (by decide : 0 < 16))
    (Nat.div_lt_of_lt_mul c.toNat_lt : c.toNat / 64 < 4)
  rw [quad_encSym (Nat.div_lt_of_lt_mul a.toNat_lt) hx hy (Nat.mod_lt _ (by decide)), x1, x0, y1, y0]
  simp only [Nat.div_add_mod', UInt8.ofNat_toNat]

theorem tail2_enc (a : UInt8) :
    tail2 (encSym (a.toNat / 4)) (encSym (a.toNat % 4 * 16)) = some [a] := by
  rw [tail2_encSym (Nat.div_lt_of_lt_mul a.toNat_lt)
      ((Nat.mul_lt_mul_right (by decide)).2 (Nat.mod_lt _ (by decide : 0 < 4))) (Nat.mul_mod_left ..),
    Nat.mul_div_cancel _ (by decide), Nat.div_add_mod', UInt8.ofNat_toNat]

theorem tail3_enc (a b : UInt8) :
    tail3 (encSym (a.toNat / 4)) (encSym (a.toNat % 4 * 16 + b.toNat / 16))
      (encSym (b.toNat % 16 * 4)) = some [a, b] := by
  obtain ⟨hx, x1, x0⟩ := split_merge (Nat.mod_lt a.toNat (by decide : 0 < 4))
    (Nat.div_lt_of_lt_mul b.toNat_lt : b.toNat / 16 < 16)
  rw [tail3_encSym (Nat.div_lt_of_lt_mul a.toNat_lt) hx
      ((Nat.mul_lt_mul_right (by decide)).2 (Nat.mod_lt _ (by decide : 0 < 16))) (Nat.mul_mod_left ..),
    x1, x0, Nat.mul_div_cancel _ (by decide)]
  simp only [Nat.div_add_mod', UInt8.ofNat_toNat]

theorem decode_encode (bs : List UInt8) : decode (encode bs) = some bs := by
  fun_induction encode bs with
  | case1 => rfl
  | case2 a => simp [decode, tail2_enc]
  | case3 a b => simp [decode, encSym_ne_pad, tail3_enc]
  | case4 a b c rest ih => simp [decode, encSym_ne_pad, quad_enc, ih]

theorem encode_length (bs : List UInt8) : (encode bs).length = 4 * ((bs.length + 2) / 3) := by
  fun_induction encode bs with
  | case1 => rfl
  | case2 a => simp
  | case3 a b => simp
  | case4 a b c rest ih => simp only [List.length_cons, ih]; omega

def isAlphabet (c : UInt8) : Bool := (decSym c).isSome || c == pad

theorem isAlphabet_of_decSym {c : UInt8} {n : Nat} (h : decSym c = some n) : isAlphabet c = true := by
  simp [isAlphabet, h]

theorem isAlphabet_pad : isAlphabet pad = true := by decide

theorem tail2_alphabet {a b : UInt8} {r : List UInt8} (h : tail2 a b = some r) :
    ∀ x ∈ [a, b], isAlphabet x = true := by
  simp only [tail2, Option.bind_eq_bind, Option.bind_eq_some_iff] at h
  obtain ⟨_, hw, _, hx, -⟩ := h
  simp [isAlphabet_of_decSym hw, isAlphabet_of_decSym hx]

theorem tail3_alphabet {a b c : UInt8} {r : List UInt8} (h : tail3 a b c = some r) :
    ∀ x ∈ [a, b, c], isAlphabet x = true := by
  simp only [tail3, Option.bind_eq_bind, Option.bind_eq_some_iff] at h
  obtain ⟨_, hw, _, hx, _, hy, -⟩ := h
  simp [isAlphabet_of_decSym hw, isAlphabet_of_decSym hx, isAlphabet_of_decSym hy]

theorem quad_alphabet {a b c d : UInt8} {r : List UInt8} (h : quad a b c d = some r) :
    ∀ x ∈ [a, b, c, d], isAlphabet x = true := by
  simp only [quad, Option.bind_eq_bind, Option.bind_eq_some_iff] at h
  obtain ⟨_, hw, _, hx, _, hy, _, hz, -⟩ := h
  simp [isAlphabet_of_decSym hw, isAlphabet_of_decSym hx, isAlphabet_of_decSym hy, isAlphabet_of_decSym hz]

theorem decode_alphabet (s : List UInt8) : ∀ r, decode s = some r → ∀ c ∈ s, isAlphabet c = true := by
  fun_induction decode s with
  | case3 a b => exact fun r h => tail2_alphabet h  -- `ab`
  | case4 a b => exact fun r h => by simpa [isAlphabet_pad] using tail2_alphabet h  -- `ab=`
  | case5 a b c _ => exact fun r h => tail3_alphabet h  -- `abc`
  | case7 a b rest h1 h2 =>  -- `ab==`
    intro r h
    have hr : rest = [] := by simpa using h1
    simpa [hr, isAlphabet_pad] using tail2_alphabet h
  | case9 a b c d rest h1 h2 h3 =>  -- `abc=`
    intro r h
    have hr : rest = [] := by simpa using h2
    have hd : d = pad := h1.resolve_left h3
    simpa [hr, hd, isAlphabet_pad] using tail3_alphabet h
  | case10 a b c d rest h1 ih =>  -- `abcd…`
    intro r h
    simp only [Option.bind_eq_bind, Option.bind_eq_some_iff] at h
    obtain ⟨_, hq, r', hr', -⟩ := h
    exact List.forall_mem_append.2 ⟨quad_alphabet hq, ih r' hr'⟩
  | _ => simp  -- empty or rejected at once

theorem encode_alphabet (bs : List UInt8) : ∀ c ∈ encode bs, isAlphabet c = true :=
  decode_alphabet _ bs (decode_encode bs)

theorem alphabet_json_safe (c : UInt8) (h : isAlphabet c = true) :
    Json.needsEscape c = false ∧ c.toNat < 128 := by
  have hr : ¬ (c.toNat < 43 ∨ 122 < c.toNat ∨ c.toNat = 92) := fun hn => by
    have hp : c = pad := by simpa [isAlphabet, decSym_eq_none hn] using h
    subst hp
    revert hn
    decide
  rw [Json.needsEscape_eq_false]
  refine ⟨⟨?_, ?_, by omega⟩, by omega⟩
  · rintro rfl; exact hr (by decide)
  · rintro rfl; exact hr (by decide)

/-- Whatever `decode` accepts is 7-bit ASCII (hence valid UTF-8): bincode's UTF-8 check on the key
string can never reject something the base64 decoder would have accepted. -/
theorem decode_ascii (s r : List UInt8) (h : decode s = some r) : ∀ c ∈ s, c.toNat < 128 :=
  fun c hc => (alphabet_json_safe c (decode_alphabet s r h c hc)).2

end HS.Wire.Base64

namespace HS.Wire

theorem decodeKey_encodeKey (c : Bool) (n : Nat) (k : List UInt8) (h : k.length = n) :
    decodeKey c n (encodeKey k) = .ok k := by
  unfold decodeKey encodeKey
  rw [Base64.decode_encode]
  subst h
  simp

theorem decodeKey_sat (c : Bool) (n : Nat) (s : List UInt8) :
    (decodeKey c n s).Sat (fun k => k.length = n) (c = false) := by
  unfold decodeKey
  split
  · trivial
  · split
    · cases c
      · exact rfl
      · trivial
    · rename_i long
      exact List.length_take_of_le (Nat.le_of_not_lt long)

end HS.Wire
