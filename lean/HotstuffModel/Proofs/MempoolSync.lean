import HotstuffModel.Model.MempoolSync
/-!
# Lemmas about the peer-facing side of the mempool (`HS.MS`)

`step_state` is the step as an equation for the new state: at most one binding goes in front of the
store, `pending` loses the entries the event removes and gains those it adds, only `Cleanup` sets
the round.  The store after a run is therefore the list of the writes, newest first (`store_run`),
and reading it is `List.lookup`.  A new fact about `reach cfg es` goes by `snoc_induction` with
`reach_snoc`, or by `run_preserves`, over `step_round`, `mem_pending_step` and the store lemmas.
Invariant `Inv`: no digest is twice a key of `pending` (what the `HashMap` of the code gives for free
and the association list of the model has to earn).
-/
namespace HS.MS

theorem snoc_induction {α : Type} {P : List α → Prop} (nil : P [])
    (snoc : ∀ l a, P l → P (l ++ [a])) : ∀ l, P l := by
  have h : ∀ l : List α, P l.reverse := by
    intro l
    induction l with
    | nil => simpa using nil
    | cons a l ih => simpa using snoc _ a ih
  intro l
  simpa using h l.reverse

theorem run_append (cfg : Cfg) (s : State) (a b : List Event) :
    run cfg s (a ++ b) =
      ((run cfg (run cfg s a).1 b).1, (run cfg s a).2 ++ (run cfg (run cfg s a).1 b).2) := by
  induction a generalizing s with
  | nil => simp [run]
  | cons e a ih => simp [run, ih, List.append_assoc]

theorem run_preserves {P : State → Prop} (cfg : Cfg) (s : State) (es : List Event)
    (hstep : ∀ s, ∀ e ∈ es, P s → P (step cfg s e).1) (h : P s) : P (run cfg s es).1 := by
  induction es generalizing s with
  | nil => exact h
  | cons e es ih =>
    exact ih _ (fun s e' he' => hstep s e' (List.mem_cons_of_mem _ he'))
      (hstep s e List.mem_cons_self h)

theorem reach_nil (cfg : Cfg) : reach cfg [] = init := rfl

theorem reach_append (cfg : Cfg) (a b : List Event) :
    reach cfg (a ++ b) = (run cfg (reach cfg a) b).1 := by
  simp [reach, run_append]

theorem reach_snoc (cfg : Cfg) (es : List Event) (e : Event) :
    reach cfg (es ++ [e]) = (step cfg (reach cfg es) e).1 := by
  simp only [reach_append, run]

theorem outs_snoc (cfg : Cfg) (es : List Event) (e : Event) :
    outs cfg (es ++ [e]) = outs cfg es ++ (step cfg (reach cfg es) e).2 := by
  simp [outs, reach, run_append, run]

theorem lookup_eq (st : List (Nat × Nat)) (d : Nat) : lookup st d = st.lookup d := by
  induction st with
  | nil => rfl
  | cons kv st ih =>
    obtain ⟨k, v⟩ := kv
    rw [lookup, List.lookup_cons, ih]
    by_cases h : k = d
    · simp [h]
    · rw [if_neg h, beq_false_of_ne (Ne.symm h)]

theorem isPending_iff (p : List PEntry) (d : Nat) : isPending p d = true ↔ d ∈ pendingDigests p := by
  simp only [isPending, pendingDigests, List.any_eq_true, List.mem_map, beq_iff_eq]

theorem pendingDigests_append (p q : List PEntry) :
    pendingDigests (p ++ q) = pendingDigests p ++ pendingDigests q :=
  List.map_append

theorem pendingDigests_map (round now : Nat) (ds : List Nat) :
    pendingDigests (ds.map fun d => ⟨d, round, now⟩) = ds := by
  simp [pendingDigests, Function.comp_def]

theorem register_pending (round now : Nat) (p : List PEntry) (ds : List Nat) :
    (register round now p ds).1 = p ++ (register round now p ds).2.map (fun d => ⟨d, round, now⟩) := by
  induction ds generalizing p with
  | nil => simp [register]
  | cons d ds ih =>
    simp only [register]
    split
    · exact ih p
    · simp [ih (p ++ [⟨d, round, now⟩])]

theorem mem_register (round now : Nat) (p : List PEntry) (ds : List Nat) (d : Nat) :
    d ∈ (register round now p ds).2 ↔ d ∈ ds ∧ d ∉ pendingDigests p := by
  induction ds generalizing p with
  | nil => simp [register]
  | cons d0 ds ih =>
    simp only [register]
    split
    · rename_i h
      have h0 := (isPending_iff p d0).mp h
      rw [ih p, List.mem_cons]
      exact ⟨fun ⟨h1, h2⟩ => ⟨Or.inr h1, h2⟩,
        fun ⟨h1, h2⟩ => ⟨h1.resolve_left fun e => h2 (e ▸ h0), h2⟩⟩
    · rename_i h
      have h0 : d0 ∉ pendingDigests p := fun hm => h ((isPending_iff p d0).mpr hm)
      rw [List.mem_cons, List.mem_cons, ih, pendingDigests_append]
      by_cases hd : d = d0
      · simp [hd, h0]
      · simp [hd, pendingDigests]

theorem register_nodup (round now : Nat) (p : List PEntry) (ds : List Nat) :
    (register round now p ds).2.Nodup := by
  induction ds generalizing p with
  | nil => simp [register]
  | cons d0 ds ih =>
    simp only [register]
    split
    · exact ih p
    · refine List.nodup_cons.mpr ⟨fun hm => ?_, ih _⟩
      exact ((mem_register round now _ ds d0).mp hm).2 (by simp [pendingDigests])

theorem register_sublist (round now : Nat) (p : List PEntry) (ds : List Nat) :
    (register round now p ds).2.Sublist ds := by
  induction ds generalizing p with
  | nil => simp [register]
  | cons d0 ds ih =>
    simp only [register]
    split
    · exact (ih p).cons _
    · exact (ih _).cons_cons _

/-- Entry `x` is taken out of `pending` by event `e` in state `s`. -/
def removed (cfg : Cfg) (s : State) (e : Event) (x : PEntry) : Prop :=
  match e with
  | .batchStored d => x.digest = d ∧ (lookup s.store d).isSome
  | .cleanup r => cfg.gcDepth ≤ r ∧ x.round + cfg.gcDepth ≤ r
  | _ => False

/-- Entry `x` is put into `pending` by event `e` in state `s`. -/
def added (s : State) (e : Event) (x : PEntry) : Prop :=
  match e with
  | .synchronize ds _ now =>
    x.digest ∈ ds ∧ x.digest ∉ pendingDigests s.pending ∧ x.round = s.round ∧ x.ts = now
  | _ => False

instance (cfg : Cfg) (s : State) (e : Event) (x : PEntry) : Decidable (removed cfg s e x) := by
  unfold removed
  split <;> infer_instance

def newEntries (s : State) : Event → List PEntry
  | .synchronize ds _ now => (register s.round now s.pending ds).2.map fun d => ⟨d, s.round, now⟩
  | _ => []

theorem eq_synchronize_of_added (s : State) (e : Event) (x : PEntry) (h : added s e x) :
    ∃ ds t, e = .synchronize ds t x.ts ∧
      x.digest ∈ ds ∧ x.digest ∉ pendingDigests s.pending ∧ x.round = s.round := by
  cases e with
  | synchronize ds t now => exact ⟨ds, t, by rw [h.2.2.2], h.1, h.2.1, h.2.2.1⟩
  | _ => exact h.elim

theorem mem_newEntries (s : State) (e : Event) (x : PEntry) : x ∈ newEntries s e ↔ added s e x := by
  cases e with
  | synchronize ds t now =>
    simp only [newEntries, added, List.mem_map, mem_register]
    exact ⟨fun ⟨d, ⟨h1, h2⟩, hx⟩ => hx ▸ ⟨h1, h2, rfl, rfl⟩,
      fun ⟨h1, h2, h3, h4⟩ => ⟨x.digest, ⟨h1, h2⟩, by rw [← h3, ← h4]⟩⟩
  | _ => simp [newEntries, added]

theorem removed_clears (cfg : Cfg) (s : State) (e : Event) (x : PEntry)
    (h : removed cfg s e x) : clears x.digest e = true := by
  cases e <;> simp_all [removed, clears]

theorem filter_not_removed (cfg : Cfg) (s : State) (e : Event) (h : ∀ x, ¬ removed cfg s e x) :
    s.pending.filter (fun x => ¬ removed cfg s e x) = s.pending :=
  List.filter_eq_self.2 fun x _ => decide_eq_true (h x)

theorem step_round (cfg : Cfg) (s : State) (e : Event) :
    (step cfg s e).1.round = match e with | .cleanup r => r | _ => s.round := by
  cases e <;> simp only [step] <;> (try split) <;> rfl

theorem step_state (cfg : Cfg) (s : State) (e : Event) :
    (step cfg s e).1 =
      { store := (writeOf cfg e).toList ++ s.store,
        pending := s.pending.filter (fun x => ¬ removed cfg s e x) ++ newEntries s e,
        round := match e with | .cleanup r => r | _ => s.round } := by
  cases e with
  | cleanup r =>
    -- `r < gc_depth` is the case in which the filter keeps everything
    have hf : s.pending.filter (fun x => ¬ removed cfg s (.cleanup r) x) =
        if r < cfg.gcDepth then s.pending
        else s.pending.filter (fun x => decide (r - cfg.gcDepth < x.round)) := by
      split
      · exact filter_not_removed _ _ _ fun x => by simp only [removed]; omega
      · exact List.filter_congr fun x _ => decide_eq_decide.2 (by simp only [removed]; omega)
    simp only [step, hf, newEntries, List.append_nil]
    split <;> rfl
  | batchStored d =>
    -- the waiter cannot have completed while the store has no value: the filter keeps everything
    have hf : s.pending.filter (fun x => ¬ removed cfg s (.batchStored d) x) =
        if (lookup s.store d).isSome then s.pending.filter (fun x => x.digest != d)
        else s.pending := by
      split
      · exact List.filter_congr fun x _ => Bool.eq_iff_iff.2
          (by rw [decide_eq_true_eq, bne_iff_ne]; simp [removed, *])
      · exact filter_not_removed _ _ _ fun x => by simp [removed, *]
    simp only [step, hf, newEntries, List.append_nil]
    cases lookup s.store d <;> rfl
  | _ =>
    rw [filter_not_removed _ _ _ fun _ => id]
    simp only [step, register_pending, newEntries, List.append_nil]
    (try split) <;> rfl

theorem mem_pending_step (cfg : Cfg) (s : State) (e : Event) (x : PEntry) :
    x ∈ (step cfg s e).1.pending ↔ (x ∈ s.pending ∧ ¬ removed cfg s e x) ∨ added s e x := by
  simp [step_state, mem_newEntries]

def Inv (s : State) : Prop := (pendingDigests s.pending).Nodup

theorem inv_init : Inv init := by simp [Inv, init, pendingDigests]

theorem inv_step (cfg : Cfg) (s : State) (e : Event) (h : Inv s) : Inv (step cfg s e).1 := by
  unfold Inv at *
  simp only [step_state, pendingDigests_append, List.nodup_append]
  refine ⟨h.sublist (List.filter_sublist.map _), ?_, fun a ha b hb hab => ?_⟩
  · cases e with
    | synchronize ds t now => simpa [newEntries, pendingDigests_map] using register_nodup ..
    | _ => exact List.nodup_nil
  · -- an added entry's digest was not pending
    obtain ⟨x, hx, rfl⟩ := List.mem_map.mp hb
    obtain ⟨_, _, _, _, hn, _⟩ := eq_synchronize_of_added s e x ((mem_newEntries s e x).mp hx)
    exact hn (hab ▸ (List.filter_sublist.map _).subset ha)

theorem inv_run (cfg : Cfg) (s : State) (es : List Event) (h : Inv s) : Inv (run cfg s es).1 :=
  run_preserves cfg s es (fun s e _ => inv_step cfg s e) h

theorem inv_reach (cfg : Cfg) (es : List Event) : Inv (reach cfg es) := inv_run cfg init es inv_init

theorem store_run (cfg : Cfg) (s : State) (es : List Event) :
    (run cfg s es).1.store = (es.filterMap (writeOf cfg)).reverse ++ s.store := by
  induction es generalizing s with
  | nil => rfl
  | cons e es ih =>
    simp only [run, ih, step_state, List.filterMap_cons]
    cases writeOf cfg e <;> simp

theorem mem_store_reach (cfg : Cfg) (es : List Event) (kv : Nat × Nat) :
    kv ∈ (reach cfg es).store ↔ ∃ e ∈ es, writeOf cfg e = some kv := by
  simp [reach, store_run, init]

theorem lastWrite_eq (cfg : Cfg) (d : Nat) (es : List Event) :
    lastWrite cfg d es = (es.filterMap (writeOf cfg)).reverse.lookup d := by
  induction es with
  | nil => rfl
  | cons e es ih =>
    simp only [lastWrite, ih, List.filterMap_cons]
    cases writeOf cfg e with
    | none => cases List.lookup d (es.filterMap (writeOf cfg)).reverse <;> rfl
    | some kv =>
      obtain ⟨k, v⟩ := kv
      rw [List.reverse_cons, List.lookup_append, List.lookup_singleton]
      cases List.lookup d (es.filterMap (writeOf cfg)).reverse <;> simp [eq_comm (a := d)]

theorem lookup_run (cfg : Cfg) (s : State) (es : List Event) (d : Nat) :
    lookup (run cfg s es).1.store d =
      match lastWrite cfg d es with
      | some v => some v
      | none => lookup s.store d := by
  rw [lookup_eq, lookup_eq, store_run, List.lookup_append, lastWrite_eq]
  cases List.lookup d (es.filterMap (writeOf cfg)).reverse <;> rfl

theorem lookup_reach (cfg : Cfg) (es : List Event) (d : Nat) :
    lookup (reach cfg es).store d = lastWrite cfg d es := by
  rw [reach, lookup_run]
  cases lastWrite cfg d es <;> rfl

theorem lastWrite_append (cfg : Cfg) (d : Nat) (a b : List Event) :
    lastWrite cfg d (a ++ b) =
      match lastWrite cfg d b with
      | some v => some v
      | none => lastWrite cfg d a := by
  simp only [lastWrite_eq, List.filterMap_append, List.reverse_append, List.lookup_append]
  cases List.lookup d (b.filterMap (writeOf cfg)).reverse <;> rfl

theorem lookup_step_batchFrame (cfg : Cfg) (s : State) (b : Nat) :
    lookup (step cfg s (.batchFrame b)).1.store (cfg.hash b) = some b := by
  simp [step, lookup]

theorem lookup_run_isSome (cfg : Cfg) (s : State) (es : List Event) (d : Nat)
    (h : (lookup s.store d).isSome) : (lookup (run cfg s es).1.store d).isSome := by
  rw [lookup_run]
  cases lastWrite cfg d es
  · exact h
  · rfl

theorem pending_preserved (cfg : Cfg) (s : State) (e : Event) (d : Nat)
    (h : d ∈ pendingDigests s.pending) (hc : clears d e = false) :
    d ∈ pendingDigests (step cfg s e).1.pending := by
  obtain ⟨x, hx, rfl⟩ := List.mem_map.mp h
  refine List.mem_map_of_mem ((mem_pending_step cfg s e x).mpr (Or.inl ⟨hx, fun hr => ?_⟩))
  rw [removed_clears cfg s e x hr] at hc
  cases hc

theorem not_pending_preserved (cfg : Cfg) (s : State) (e : Event) (d : Nat)
    (h : d ∉ pendingDigests s.pending)
    (hs : ∀ ds t now, e = .synchronize ds t now → d ∉ ds) :
    d ∉ pendingDigests (step cfg s e).1.pending := by
  intro hm
  obtain ⟨x, hx, rfl⟩ := List.mem_map.mp hm
  rcases (mem_pending_step cfg s e x).mp hx with ⟨hx', _⟩ | ha
  · exact h (List.mem_map_of_mem hx')
  · obtain ⟨ds, t, he, hd, _⟩ := eq_synchronize_of_added s e x ha
    exact hs ds t _ he hd

theorem pending_after_synchronize (cfg : Cfg) (s : State) (ds : List Nat) (t now d : Nat)
    (h : d ∈ ds) : d ∈ pendingDigests (step cfg s (.synchronize ds t now)).1.pending := by
  simp only [step, register_pending, pendingDigests_append, pendingDigests_map, List.mem_append,
    mem_register]
  by_cases hp : d ∈ pendingDigests s.pending
  · exact Or.inl hp
  · exact Or.inr ⟨h, hp⟩

theorem mem_due (cfg : Cfg) (p : List PEntry) (now d : Nat) :
    d ∈ due cfg p now ↔ ∃ x ∈ p, x.digest = d ∧ x.ts + cfg.retryDelay < now := by
  simp only [due, List.mem_map, List.mem_filter, decide_eq_true_eq]
  exact ⟨fun ⟨x, ⟨h1, h2⟩, h3⟩ => ⟨x, h1, h3, h2⟩, fun ⟨x, h1, h3, h2⟩ => ⟨x, ⟨h1, h2⟩, h3⟩⟩

theorem step_timer (cfg : Cfg) (s : State) (now : Nat) (peers : List Nat) :
    step cfg s (.timer now peers) =
      (s, if (due cfg s.pending now).isEmpty then []
          else [.retryTo (pick cfg peers) (due cfg s.pending now)]) := by
  simp only [step]
  split <;> rfl

theorem mem_retry (cfg : Cfg) (s : State) (now : Nat) (peers ps ds : List Nat)
    (ho : Out.retryTo ps ds ∈ (step cfg s (.timer now peers)).2) (d : Nat) (hd : d ∈ ds) :
    ∃ x ∈ s.pending, x.digest = d ∧ x.ts + cfg.retryDelay < now := by
  rw [step_timer, List.mem_ite_nil_left, List.mem_singleton] at ho
  cases ho.2
  exact (mem_due cfg _ now d).mp hd

theorem mem_others (cfg : Cfg) (p : Nat) : p ∈ others cfg ↔ p ∈ cfg.members ∧ p ≠ cfg.name := by
  simp [others]

theorem pick_legal (cfg : Cfg) (peers : List Nat) :
    (∀ p ∈ pick cfg peers, p ∈ cfg.members ∧ p ≠ cfg.name) ∧
    (pick cfg peers).length = min cfg.retryNodes (others cfg).length := by
  unfold pick
  split
  · rename_i h
    simp only [legalPick, Bool.and_eq_true, List.all_eq_true, List.contains_iff_mem, beq_iff_eq] at h
    exact ⟨fun p hp => (mem_others cfg p).mp (h.1.2 p hp), h.2⟩
  · refine ⟨fun p hp => (mem_others cfg p).mp (List.mem_of_mem_take hp), ?_⟩
    simp [List.length_take]

/-- Events that are a frame arriving on the mempool port. -/
def isFrame : Event → Bool
  | .batchFrame _ => true
  | .batchRequest _ _ => true
  | .garbage => true
  | _ => false

def acks : List Out → Nat
  | [] => 0
  | .ack :: os => acks os + 1
  | _ :: os => acks os

theorem acks_append (a b : List Out) : acks (a ++ b) = acks a + acks b := by
  induction a with
  | nil => simp [acks]
  | cons o a ih => cases o <;> simp [acks, ih] <;> omega

theorem announced_append (a b : List Out) : announced (a ++ b) = announced a ++ announced b := by
  induction a with
  | nil => rfl
  | cons o a ih => cases o <;> simp [announced, ih]

theorem storedOuts_append (a b : List Out) : storedOuts (a ++ b) = storedOuts a ++ storedOuts b := by
  induction a with
  | nil => rfl
  | cons o a ih => cases o <;> simp [storedOuts, ih]

theorem frames_append (a b : List Event) : frames (a ++ b) = frames a ++ frames b := by
  induction a with
  | nil => rfl
  | cons e a ih => cases e <;> simp [frames, ih]

theorem replies_eq (st : List (Nat × Nat)) (o : Nat) (ds : List Nat) :
    replies st o ds = (ds.filterMap (lookup st)).map (Out.reply o) := by
  induction ds with
  | nil => rfl
  | cons d ds ih =>
    simp only [replies, List.filterMap_cons]
    cases lookup st d with
    | none => simpa using ih
    | some v => simp [ih]

theorem replies_no_receipt (st : List (Nat × Nat)) (o : Nat) (ds : List Nat) :
    acks (replies st o ds) = 0 ∧ announced (replies st o ds) = [] ∧
      storedOuts (replies st o ds) = [] := by
  induction ds with
  | nil => exact ⟨rfl, rfl, rfl⟩
  | cons d ds ih =>
    simp only [replies]
    split <;> exact ih

theorem step_receipts (cfg : Cfg) (s : State) (e : Event) :
    acks (step cfg s e).2 = (if isFrame e then 1 else 0) ∧
    announced (step cfg s e).2 = (frames [e]).map cfg.hash ∧
    storedOuts (step cfg s e).2 = (frames [e]).map (fun b => (cfg.hash b, b)) := by
  cases e with
  | batchRequest ds o =>
    simp only [step]
    split
    · simpa [acks, announced, storedOuts, frames, isFrame] using replies_no_receipt s.store o ds
    · exact ⟨rfl, rfl, rfl⟩
  | synchronize | cleanup | timer | batchStored => simp only [step]; split <;> exact ⟨rfl, rfl, rfl⟩
  | _ => exact ⟨rfl, rfl, rfl⟩

theorem run_receipts (cfg : Cfg) (s : State) (es : List Event) :
    acks (run cfg s es).2 = (es.filter isFrame).length ∧
    announced (run cfg s es).2 = (frames es).map cfg.hash ∧
    storedOuts (run cfg s es).2 = (frames es).map (fun b => (cfg.hash b, b)) := by
  induction es generalizing s with
  | nil => exact ⟨rfl, rfl, rfl⟩
  | cons e es ih =>
    obtain ⟨h1, h2, h3⟩ := step_receipts cfg s e
    obtain ⟨i1, i2, i3⟩ := ih (step cfg s e).1
    have hf : frames (e :: es) = frames [e] ++ frames es := frames_append [e] es
    refine ⟨?_, ?_, ?_⟩
    · rw [run, acks_append, h1, i1, List.filter_cons]
      split <;> simp <;> omega
    · rw [run, announced_append, h2, i2, hf, List.map_append]
    · rw [run, storedOuts_append, h3, i3, hf, List.map_append]

end HS.MS
