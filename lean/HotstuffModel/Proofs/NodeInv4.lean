import HotstuffModel.Proofs.NodeInv3
import HotstuffModel.Proofs.Leader
/-!
Inv4: the block store is keyed by digest and closed under parents; no micro-step panics.
-/
namespace HS
open Node

structure Inv4 (s : Node) : Prop where
  keyed : ∀ d b, (d, b) ∈ s.store → b.digest = d
  closed : ∀ d b, (d, b) ∈ s.store → b.qc.isGenesis = true ∨ (s.store.lookup b.parent).isSome = true
  noPanic : s.panic = none

theorem afterStore_store (s : Node) (b0 b1 b : Block) :
    (afterStore s b0 b1 b).store = (b.digest, b) :: s.store := rfl

/-- An accepted TC has at least one entry, so `max` of its high-QC rounds exists. -/
theorem tc_ok_nonempty (c : Committee) (t : TC) (h : t.verify c = .ok ()) :
    maxRounds t.highQcRounds ≠ none := by
  obtain ⟨_, _, h3, _⟩ := (TC.verify_ok_iff c t).mp h
  have hq := quorum_pos c
  cases hv : t.votes with
  | nil =>
    simp [TC.signers, hv, Committee.weight] at h3
    omega
  | cons a l => simp [TC.highQcRounds, hv, maxRounds]

theorem safetyRule2_some (c : Committee) (b : Block) (h : Checked c b) : safetyRule2 b ≠ none := by
  unfold safetyRule2
  split
  · simp
  · rename_i tc htc
    have := tc_ok_nonempty c tc (h.tc tc htc)
    split
    · rename_i hm; exact absurd hm this
    · simp

/-- A block whose parent is in the store (or whose QC is genesis) is never handed to the synchronizer. -/
theorem getParent_of_closed (c : Committee) (s : Node) (b : Block)
    (h : b.qc.isGenesis = true ∨ (s.store.lookup b.parent).isSome = true) :
    ∃ p, getParent c s b = (s, .found p) := by
  by_cases hg : b.qc.isGenesis = true
  · exact ⟨_, getParent_found_iff.2 (.inl ⟨hg, rfl⟩)⟩
  · obtain ⟨p, hp⟩ := Option.isSome_iff_exists.mp (h.resolve_left hg)
    exact ⟨p, getParent_found_iff.2 (.inr ⟨by simpa using hg, hp⟩)⟩

theorem genesis_isGenesis : Block.genesis.qc.isGenesis = true := by decide

/-- On a store that is closed under parents the ancestor walk of `commit` meets no `expect` and no
read error.  (That it does not run out of fuel either is part of `commitWalk_spec`, Proofs/NodeInv5.) -/
theorem commitWalk_done (c : Committee) (s : Node) (h : Inv4 s) :
    ∀ (fuel : Nat) (cur : Block) (acc : List Block),
      (cur = Block.genesis ∨ ∃ d, (d, cur) ∈ s.store) → ∃ anc, commitWalk c s fuel cur acc = .done anc := by
  intro fuel
  induction fuel with
  | zero => intro cur acc _; exact ⟨acc, by simp [commitWalk]⟩
  | succ n ih =>
    intro cur acc hcur
    unfold commitWalk
    split
    · obtain ⟨p, hp⟩ := getParent_of_closed c s cur
        (hcur.elim (· ▸ .inl genesis_isGenesis) fun ⟨d, hd⟩ => h.closed d cur hd)
      rw [hp]
      simp only
      split
      · exact ⟨acc, rfl⟩
      · exact ih _ _ ((getParent_found_iff.1 hp).imp (·.2) fun h => ⟨_, mem_of_lookup h.2⟩)
    · exact ⟨acc, rfl⟩

theorem commit_stored (c : Committee) (s : Node) (h : Inv4 s) (b : Block)
    (hb : b = Block.genesis ∨ ∃ d, (d, b) ∈ s.store) :
    (b.round ≤ s.lastCommitted ∧ commit c s b = (s, true)) ∨
    ∃ anc, s.lastCommitted < b.round ∧ commitWalk c s (digestDepth b.digest + 1) b [] = .done anc ∧
      commit c s b = (s.deliver b anc, true) := by
  unfold commit
  split
  · rename_i hle
    exact .inl ⟨hle, rfl⟩
  · rename_i hlt
    obtain ⟨anc, hanc⟩ := commitWalk_done c s h (digestDepth b.digest + 1) b [] hb
    rw [hanc]
    exact .inr ⟨anc, Nat.lt_of_not_le hlt, rfl, rfl⟩

section
variable {s s' : Node}

theorem Inv4.congr (h : Inv4 s) (store : s'.store = s.store := by exact rfl)
    (panic : s'.panic = s.panic := by exact rfl) : Inv4 s' :=
  ⟨store ▸ h.keyed, store ▸ h.closed, panic ▸ h.noPanic⟩

theorem Inv4.stores {c : Committee} {b b1 : Block} (h : Inv4 s) (parent : getParent c s b = (s, .found b1))
    (store : s'.store = (b.digest, b) :: s.store) (panic : s'.panic = s.panic := by exact rfl) : Inv4 s' := by
  have closed : ∀ {x : Block}, x.qc.isGenesis = true ∨ (s.store.lookup x.parent).isSome = true →
      x.qc.isGenesis = true ∨ (s'.store.lookup x.parent).isSome = true :=
    fun hx => hx.imp id (store ▸ lookup_isSome_cons _ _ _)
  have both : ∀ d x, (d, x) ∈ s'.store →
      x.digest = d ∧ (x.qc.isGenesis = true ∨ (s'.store.lookup x.parent).isSome = true) := by
    intro d x hx
    rcases List.mem_cons.mp (store ▸ hx) with e | hx
    · cases e
      -- a parent other than genesis was found by `lookup`, so `lookup` of it is `some`
      exact ⟨rfl, closed ((getParent_found_iff.1 parent).imp (·.1) fun found => by rw [found.2]; rfl)⟩
    · exact ⟨h.keyed d x hx, closed (h.closed d x hx)⟩
  exact ⟨fun d x hx => (both d x hx).1, fun d x hx => (both d x hx).2, panic ▸ h.noPanic⟩

end

section
variable {c : Committee} {e : Event} {cur cur' : Option Block} {s s' : Node}

theorem inv4_move (hc : c.keys ≠ []) (hsw : Gen.helperSkipsNonBlock = true) (m : Move c e cur s cur' s')
    (h3 : Inv3 c s) (h : Inv4 s) (hB : ∀ b, cur = some b → Checked c b) : Inv4 s' := by
  cases m with
  | cert m => exact h.congr (store := m.coreOnly.store) (panic := m.coreOnly.panic)
  | timerFired | proposalAsks | proposalWaits | proposalEnters | loopback | parksBehind | parksAsks | votes
  | voteSent | voteKept | proposerCleans | proposes | helperReplies | batchStored | digestBuffered
  | syncResumes | payloadResumes | syncRetries => exact h.congr
  | stores b b1 b0 anc => exact h.stores (parent := anc.1) (store := rfl)
  | storesChain b b1 b0 anc => rw [beforeCommit_eq]; exact h.stores (parent := anc.1) (store := rfl)
  | parksUnknown b x held mem =>
    have : x.author ∈ c.keys := by
      rcases held with rfl | ⟨d, hx⟩
      · exact (hB _ rfl).member
      · exact (h3.blocks x (mem_pendingBlocks.2 (.inr (.inr (.inr ⟨d, hx⟩))))).member
    simp [this] at mem
  | ancestorFails b b1 stored orphan =>
    obtain ⟨d, hd⟩ := stored
    rcases h.closed d b1 hd with hg | hl
    · exact absurd hg (by simp [orphan.1])
    · simp [orphan.2] at hl
  | commitFails b b1 b0 _ stored _ walk =>
    obtain ⟨_, done⟩ := commitWalk_done c s h _ b0 [] stored
    exact nomatch done.symm.trans walk
  | emptyTC b _ rule => exact absurd rule (safetyRule2_some c b (hB b rfl))
  | noNextLeader b mem => simp [leader_mem c hc (s.round + 1)] at mem
  | helperFails _ _ _ _ sw => simp [hsw] at sw

theorem inv4_delivery (d : Delivery c cur s s') (h : Inv4 s) : Inv4 s' := by
  cases d with
  | mk b b1 b0 anc => rw [deliver_eq]; exact h.congr

end

theorem inv4_step (c : Committee) (hc : c.keys ≠ []) (hsw : Gen.helperSkipsNonBlock = true)
    (s : Node) (e : Event) (h3 : Inv3 c s) (h : Inv4 s) : Inv4 (step c s e) :=
  (step_induct (P := fun s => Inv3 c s ∧ Inv4 s) (B := fun _ => Checked c) (fun _ h => h)
    (fun m h => inv3_enter m h.1) (fun m h hB => ⟨inv3_move m h.1 hB, inv4_move hc hsw m h.1 h.2 hB⟩)
    (fun d h _ => ⟨inv3_delivery d h.1, inv4_delivery d h.2⟩) ⟨h3, h⟩).2

theorem inv4_init (c : Committee) (name : Nat) : Inv4 (Node.init c name) := by
  have blank : Inv4 { name := name } := ⟨fun _ _ h => (nomatch h), fun _ _ h => (nomatch h), rfl⟩
  have core := coreOnly_proposeIfLeader c { name := name } none
  exact init_eq c name ▸ blank.congr (store := core.store) (panic := core.panic)

end HS
