import HotstuffModel.Proofs.NodeExt
/-!
Inv1: the pacemaker / voting arithmetic of the node model (no cryptography).
Holds for ARBITRARY inputs: no assumption on what the network delivers.
-/
namespace HS
open Node

/-- Safety rule 2 of `make_vote`, as a proposition. -/
def SafeExt (b : Block) : Prop :=
  b.qc.round + 1 = b.round ∨
    ∃ tc, b.tc = some tc ∧ tc.round + 1 = b.round ∧ ∀ x ∈ tc.highQcRounds, x ≤ b.qc.round

structure Inv1 (s : Node) : Prop where
  hq_lt : s.highQC.round < s.round
  lv_le : s.lastVoted ≤ s.round
  voted : ∀ b, Out.voted b ∈ s.hist →
    b.round ≤ s.lastVoted ∧ b.qc.round < b.round ∧ SafeExt b ∧ b.qc.round ≤ s.highQC.round
  touts : ∀ t, Out.timeout t ∈ s.hist →
    t.round ≤ s.lastVoted ∧ t.highQC.round ≤ s.highQC.round ∧ t.highQC.round < t.round
  blocks : ∀ b, b ∈ s.pendingBlocks → b.qc.round < s.round ∧ b.qc.round ≤ s.highQC.round
  makes : ∀ r qc tc, PMsg.make r qc tc ∈ s.propQ →
    qc.round < r ∧ r ≤ s.round ∧ qc.round ≤ s.highQC.round
  makesHist : ∀ r qc tc, Out.make r qc tc ∈ s.hist → r ≤ s.round
  proposed : ∀ b, Out.propose b ∈ s.hist → b.qc.round < b.round ∧ b.qc.round ≤ s.highQC.round
  replied : ∀ to b, Out.helperReply to b ∈ s.hist → b.qc.round ≤ s.highQC.round

/-- The parts of the state that only `Core`'s message handlers change. -/
def SameCore (s s' : Node) : Prop :=
  s'.round = s.round ∧ s'.highQC = s.highQC ∧ s'.lastVoted = s.lastVoted ∧ s'.name = s.name

theorem sameCore_afterStore (s : Node) (b0 b1 b : Block) : SameCore s (afterStore s b0 b1 b) :=
  ⟨rfl, rfl, rfl, rfl⟩

theorem maxRounds_eq_max? (l : List Nat) : maxRounds l = l.max? := by cases l <;> rfl

theorem maxRounds_ge {l : List Nat} {m : Nat} (h : maxRounds l = some m) : ∀ x ∈ l, x ≤ m :=
  (List.max?_le_iff (maxRounds_eq_max? l ▸ h)).1 (Nat.le_refl m)

theorem safetyRule2_true {b : Block} (h : safetyRule2 b = some true) : SafeExt b := by
  unfold safetyRule2 at h
  unfold SafeExt
  split at h
  · simp only [Option.some.injEq, beq_iff_eq] at h
    left; exact h
  · rename_i tc htc
    split at h
    · simp at h
    · rename_i m hm
      simp only [Option.some.injEq, Bool.or_eq_true, beq_iff_eq, Bool.and_eq_true,
        decide_eq_true_eq] at h
      rcases h with h | h
      · left; exact h
      · right
        refine ⟨tc, htc, h.1, ?_⟩
        intro x hx
        have := maxRounds_ge hm x hx
        omega

/-- What Inv1 asks of a recorded output, given `last_voted_round`, the round of `high_qc` and the round. -/
def Out.ok1 (lv hq r : Nat) : Out → Prop
  | .voted b => b.round ≤ lv ∧ b.qc.round < b.round ∧ SafeExt b ∧ b.qc.round ≤ hq
  | .timeout t => t.round ≤ lv ∧ t.highQC.round ≤ hq ∧ t.highQC.round < t.round
  | .make r' _ _ => r' ≤ r
  | .propose b => b.qc.round < b.round ∧ b.qc.round ≤ hq
  | .helperReply _ b => b.qc.round ≤ hq
  | _ => True

/-- … of a message queued for the proposer. -/
def PMsg.ok1 (hq r : Nat) : PMsg → Prop
  | .make r' qc _ => qc.round < r' ∧ r' ≤ r ∧ qc.round ≤ hq
  | .cleanup _ => True

theorem Inv1.update {s s' : Node} (h : Inv1 s)
    (round : s.round ≤ s'.round := by exact Nat.le_refl _)
    (highQC : s.highQC.round ≤ s'.highQC.round := by exact Nat.le_refl _)
    (lastVoted : s.lastVoted ≤ s'.lastVoted := by exact Nat.le_refl _)
    (hq_lt : s'.highQC.round < s'.round) (lv_le : s'.lastVoted ≤ s'.round)
    {new : List Out} (hist : s'.hist = new ++ s.hist)
    (outs : ∀ o ∈ new, o.ok1 s'.lastVoted s'.highQC.round s'.round := by exact List.forall_mem_nil _)
    (blocks : ∀ b ∈ s'.pendingBlocks, b ∈ s.pendingBlocks ∨ Below s b := by exact fun _ hb => .inl hb)
    (msgs : ∀ m ∈ s'.propQ, m ∈ s.propQ ∨ m.ok1 s'.highQC.round s'.round := by exact fun _ hm => .inl hm) :
    Inv1 s' := by
  have split : ∀ {o}, o ∈ s'.hist → o ∈ new ∨ o ∈ s.hist := fun ho => List.mem_append.mp (hist ▸ ho)
  -- a new output: `outs` at its constructor is the clause; an old one: the counters have only grown
  exact
    { hq_lt, lv_le
      voted := fun b hb => (split hb).elim (outs _) fun hb => by
        obtain ⟨round_le, qc_lt, safe, qc_le⟩ := h.voted b hb
        exact ⟨Nat.le_trans round_le lastVoted, qc_lt, safe, Nat.le_trans qc_le highQC⟩
      touts := fun t ht => (split ht).elim (outs _) fun ht => by have := h.touts t ht; omega
      blocks := fun b hb => by
        have := (blocks b hb).elim (h.blocks b) id
        exact ⟨by omega, by omega⟩
      makes := fun r qc tc hm => (msgs _ hm).elim (fun hm => by have := h.makes r qc tc hm; omega) id
      makesHist := fun r qc tc hm => (split hm).elim (outs _) fun hm => by
        have := h.makesHist r qc tc hm; omega
      proposed := fun b hb => (split hb).elim (outs _) fun hb => by have := h.proposed b hb; omega
      replied := fun to b hb => (split hb).elim (outs _) fun hb => by have := h.replied to b hb; omega }

theorem Inv1.of_same {s s' : Node} (h : Inv1 s) (round : s'.round = s.round := by exact rfl)
    (highQC : s'.highQC = s.highQC := by exact rfl) (lastVoted : s'.lastVoted = s.lastVoted := by exact rfl)
    {new : List Out} (hist : s'.hist = new ++ s.hist)
    (outs : ∀ o ∈ new, o.ok1 s.lastVoted s.highQC.round s.round := by exact List.forall_mem_nil _)
    (blocks : ∀ b ∈ s'.pendingBlocks, b ∈ s.pendingBlocks ∨ Below s b := by exact fun _ hb => .inl hb)
    (msgs : ∀ m ∈ s'.propQ, m ∈ s.propQ ∨ m.ok1 s.highQC.round s.round := by exact fun _ hm => .inl hm) :
    Inv1 s' :=
  h.update (round := Nat.le_of_eq round.symm) (highQC := by rw [highQC]; exact Nat.le_refl _)
    (lastVoted := Nat.le_of_eq lastVoted.symm) (hq_lt := by rw [highQC, round]; exact h.hq_lt)
    (lv_le := by rw [lastVoted, round]; exact h.lv_le) (hist := hist)
    (outs := by rw [lastVoted, highQC, round]; exact outs) (blocks := blocks)
    (msgs := by rw [highQC, round]; exact msgs)

section
variable {s : Node}

theorem Inv1.emit (h : Inv1 s) {o : Out} (ho : o.ok1 s.lastVoted s.highQC.round s.round) :
    Inv1 (s.emit o) :=
  h.of_same (new := [o]) (hist := rfl) (outs := fun _ ho' => List.mem_singleton.mp ho' ▸ ho)

theorem inv1_advanceRound (r : Nat) (ev : Evidence) (h : Inv1 s) : Inv1 (s.advanceRound r ev) :=
  advanceRound_cases (fun _ => h) fun fresh =>
    have := h.hq_lt; have := h.lv_le
    h.update (round := Nat.le_succ_of_le fresh) (hq_lt := show s.highQC.round < r + 1 by omega)
      (lv_le := show s.lastVoted ≤ r + 1 by omega) (new := [_]) (hist := rfl)
      (outs := List.forall_mem_singleton.2 trivial)

theorem inv1_processQC (qc : QC) (h : Inv1 s) : Inv1 (s.processQC qc) :=
  have h' := inv1_advanceRound qc.round (.qc qc) h
  updateHighQC_cases (fun _ => h') fun new =>
    h'.update (highQC := Nat.le_of_lt new) (hq_lt := advanceRound_gt s qc.round _) (lv_le := h'.lv_le)
      (new := []) (hist := rfl)

theorem inv1_generateProposal (tc : Option TC) (h : Inv1 s) : Inv1 (s.generateProposal tc) := by
  refine h.of_same (new := [_]) (hist := rfl) (outs := List.forall_mem_singleton.2 (Nat.le_refl _))
    (msgs := ?_)
  intro m hm
  refine (List.mem_append.mp hm).imp id fun hm => ?_
  cases List.mem_singleton.mp hm
  exact ⟨h.hq_lt, Nat.le_refl _, Nat.le_refl _⟩

theorem inv1_proposeIfLeader (c : Committee) (tc : Option TC) (h : Inv1 s) :
    Inv1 (s.proposeIfLeader c tc) :=
  proposeIfLeader_cases h fun _ => inv1_generateProposal tc h

theorem inv1_setAgg (a : Aggregator) (h : Inv1 s) : Inv1 { s with agg := a } :=
  h.of_same (new := []) (hist := rfl)

end

section
variable {c : Committee} {e : Event} {cur cur' : Option Block} {s s' : Node}

theorem inv1_cert (m : CertMove c e s s') (h : Inv1 s) : Inv1 s' := by
  cases m with
  | voteCounted v a => exact inv1_setAgg a h
  | voteCertifies v a qc => exact inv1_proposeIfLeader c _ (inv1_processQC qc (inv1_setAgg a h))
  | timeoutSeen t => exact inv1_processQC _ h
  | timeoutCounted t a => exact inv1_setAgg a (inv1_processQC _ h)
  | timeoutCertifies t a tc =>
    exact inv1_proposeIfLeader c _ ((inv1_advanceRound _ _ (inv1_setAgg a (inv1_processQC _ h))).emit trivial)
  | tcSeen tc => exact inv1_proposeIfLeader c _ (inv1_advanceRound _ _ h)
  | proposalCerts b =>
    exact advanceTC_cases (inv1_processQC _ h) fun _ _ => inv1_advanceRound _ _ (inv1_processQC _ h)

theorem inv1_enter {b : Block} (m : Move c e none s (some b) s') (h : Inv1 s) : Below s' b := by
  cases m with
  | proposalEnters _ _ _ _ below => exact below
  | loopback _ rest _ hq => exact h.blocks b (mem_pendingBlocks.2 (.inl (hq ▸ .head _)))

theorem inv1_move (m : Move c e cur s cur' s') (h : Inv1 s) (hB : ∀ b, cur = some b → Below s b) :
    Inv1 s' := by
  rcases m.quiet with m | q
  · exact inv1_cert m h
  obtain ⟨new, hist, rec⟩ := q.hist
  have up := ext_move m
  have lv : s'.lastVoted ≤ s.round := by have := h.lv_le; have := q.lastVoted; omega
  refine h.update (round := up.round) (highQC := up.highQC) (lastVoted := up.lastVoted)
    (hq_lt := by rw [q.highQC, q.round]; exact h.hq_lt) (lv_le := by rw [q.round]; exact lv)
    (hist := hist) (outs := ?_) (blocks := ?_) (msgs := ?_)
  · intro o ho
    have ro := rec o ho
    rw [q.highQC, q.round]
    cases o with
    | voted b =>
      obtain ⟨hc, round, rule2, lv'⟩ := ro
      have below := hB b hc
      exact ⟨by omega, round ▸ below.1, safetyRule2_true rule2, below.2⟩
    | timeout t =>
      obtain ⟨rfl, lv'⟩ := ro
      exact ⟨by rw [lv']; exact Nat.le_max_right .., Nat.le_refl _, h.hq_lt⟩
    | propose b =>
      obtain ⟨r, qc, tc, order, hm, rfl⟩ := ro
      obtain ⟨qc_lt, _, qc_le⟩ := h.makes r qc tc hm
      exact ⟨qc_lt, qc_le⟩
    | helperReply _ b =>
      obtain ⟨d, hd⟩ := ro
      exact (h.blocks b (mem_pendingBlocks.2 (.inr (.inr (.inr ⟨d, hd⟩))))).2
    | make => exact ro.elim
    | _ => trivial
  · intro x hx
    refine (m.blocks x hx).imp id ?_
    rintro (hx | ⟨_, _, _, below⟩ | ⟨r, qc, tc, order, hm, rfl⟩)
    · exact hB x hx
    · exact below
    · obtain ⟨qc_lt, r_le, qc_le⟩ := h.makes r qc tc hm
      exact ⟨Nat.lt_of_lt_of_le qc_lt r_le, qc_le⟩
  · exact fun x hx => (q.propQ x hx).imp id fun ⟨_, e⟩ => e ▸ trivial

theorem inv1_delivery (d : Delivery c cur s s') (h : Inv1 s) : Inv1 s' := by
  cases d with
  | mk b b1 b0 anc =>
    rw [deliver_eq]
    exact h.of_same (hist := rfl) (outs := List.forall_mem_map.2 fun _ _ => trivial)

end

theorem inv1_step (c : Committee) (s : Node) (e : Event) (h : Inv1 s) : Inv1 (step c s e) :=
  step_induct (B := Below) Below.mono inv1_enter inv1_move (fun d h _ => inv1_delivery d h) h

theorem inv1_init (c : Committee) (name : Nat) : Inv1 (Node.init c name) :=
  init_eq c name ▸ inv1_proposeIfLeader c none ⟨Nat.zero_lt_one, Nat.zero_le _,
    (fun _ h => nomatch h), (fun _ h => nomatch h), (fun _ h => nomatch h), (fun _ _ _ h => nomatch h),
    (fun _ _ _ h => nomatch h), (fun _ h => nomatch h), (fun _ _ h => nomatch h)⟩

theorem inv1_run (c : Committee) (s : Node) (es : List Event) (h : Inv1 s) : Inv1 (run c s es) :=
  run_induct (inv1_step c) h es

end HS
