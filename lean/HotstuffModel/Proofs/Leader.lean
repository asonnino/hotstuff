import HotstuffModel.Model.Leader
/-!
`get_leader`: sorting is a permutation into the unique sorted order, so the leader depends on the
key SET only; round-robin facts.  `Gen.leaderIndex` comes from the source (translator).
-/
namespace HS

theorem insertSorted_perm (a : Nat) (l : List Nat) : (insertSorted a l).Perm (a :: l) := by
  induction l with
  | nil => exact List.Perm.refl _
  | cons b l ih =>
    unfold insertSorted
    split
    · exact List.Perm.refl _
    · exact (List.Perm.cons b ih).trans (List.Perm.swap a b l)

theorem sortKeys_perm (l : List Nat) : (sortKeys l).Perm l := by
  induction l with
  | nil => exact List.Perm.refl _
  | cons a l ih => exact (insertSorted_perm a (sortKeys l)).trans (List.Perm.cons a ih)

theorem insertSorted_sorted (a : Nat) (l : List Nat) (h : l.Pairwise (· ≤ ·)) :
    (insertSorted a l).Pairwise (· ≤ ·) := by
  induction l with
  | nil => exact List.pairwise_singleton _ _
  | cons b l ih =>
    have hb := List.pairwise_cons.mp h
    unfold insertSorted
    split
    · rename_i hab
      exact List.pairwise_cons.mpr ⟨fun x hx => (List.mem_cons.mp hx).elim (· ▸ hab)
        fun hx => Nat.le_trans hab (hb.1 x hx), h⟩
    · rename_i hab
      exact List.pairwise_cons.mpr ⟨fun x hx =>
        (List.mem_cons.mp ((insertSorted_perm a l).subset hx)).elim (· ▸ Nat.le_of_not_le hab) (hb.1 x),
        ih hb.2⟩

theorem sortKeys_sorted (l : List Nat) : (sortKeys l).Pairwise (· ≤ ·) := by
  induction l with
  | nil => simp [sortKeys]
  | cons a l ih => exact insertSorted_sorted a _ ih

/-- The sorted key list depends only on the key multiset: any insertion order gives the same list. -/
theorem sortKeys_eq_of_perm {l1 l2 : List Nat} (h : l1.Perm l2) : sortKeys l1 = sortKeys l2 := by
  apply List.Perm.eq_of_pairwise (le := (· ≤ ·))
  · intro a b _ _ h1 h2; exact Nat.le_antisymm h1 h2
  · exact sortKeys_sorted l1
  · exact sortKeys_sorted l2
  · exact (sortKeys_perm l1).trans (h.trans (sortKeys_perm l2).symm)

theorem mem_sortKeys (l : List Nat) (x : Nat) : x ∈ sortKeys l ↔ x ∈ l := (sortKeys_perm l).mem_iff
theorem length_sortKeys (l : List Nat) : (sortKeys l).length = l.length := (sortKeys_perm l).length_eq

/-- The leader of round `r` is the `(r mod n)`-th smallest key (`0` where the Rust panics). -/
theorem leader_eq (c : Committee) (r : Nat) :
    c.leader r = (sortKeys c.keys)[r % c.keys.length]?.getD 0 := rfl

theorem leaderIndex_lt (c : Committee) (h : c.keys ≠ []) (r : Nat) :
    r % c.keys.length < (sortKeys c.keys).length := by
  rw [length_sortKeys]; exact Nat.mod_lt _ (List.length_pos_iff.mpr h)

/-- On a non-empty committee `get_leader` does not panic and returns a member. -/
theorem leader?_some (c : Committee) (h : c.keys ≠ []) (r : Nat) :
    ∃ k, c.leader? r = some k ∧ k ∈ c.keys :=
  ⟨_, List.getElem?_eq_getElem (leaderIndex_lt c h r), (mem_sortKeys _ _).mp (List.getElem_mem _)⟩

theorem leader_mem (c : Committee) (h : c.keys ≠ []) (r : Nat) : c.leader r ∈ c.keys := by
  obtain ⟨k, hk, hm⟩ := leader?_some c h r
  unfold Committee.leader; rw [hk]; exact hm

/-! ### Round-robin

With distinct keys, rounds have the same leader exactly when they are congruent modulo the number of keys;
the statements about windows of consecutive rounds follow by the two facts on residues below. -/

theorem mod_shift_exists (n r j : Nat) (hj : j < n) : ∃ i, i < n ∧ (r + i) % n = j := by
  have hn : 0 < n := Nat.zero_lt_of_lt hj
  refine ⟨(j + n - r % n) % n, Nat.mod_lt _ hn, ?_⟩
  -- modulo `n`, `r` is `r % n`, which can be subtracted from `j + n`
  rw [Nat.add_mod_mod, ← Nat.mod_add_mod,
    Nat.add_sub_cancel' (Nat.le_trans (Nat.le_of_lt (Nat.mod_lt r hn)) (Nat.le_add_left n j)),
    Nat.add_mod_right, Nat.mod_eq_of_lt hj]

theorem eq_of_mod_eq (n x y : Nat) (hle : x ≤ y) (hlt : y < x + n) (h : x % n = y % n) : x = y := by
  have h0 := Nat.sub_mod_eq_zero_of_mod_eq h.symm
  rw [Nat.mod_eq_of_lt (Nat.sub_lt_left_of_lt_add hle hlt)] at h0
  exact Nat.le_antisymm hle (Nat.le_of_sub_eq_zero h0)

theorem leader_congr_mod (c : Committee) {r r' : Nat} (h : r % c.keys.length = r' % c.keys.length) :
    c.leader r = c.leader r' := by
  rw [leader_eq, leader_eq, h]

theorem leader_periodic (c : Committee) (r : Nat) : c.leader (r + c.keys.length) = c.leader r :=
  leader_congr_mod c (Nat.add_mod_right ..)

theorem leader_inj_mod (c : Committee) (hw : c.WF) (h : c.keys ≠ []) {r r' : Nat}
    (e : c.leader r = c.leader r') : r % c.keys.length = r' % c.keys.length := by
  rw [leader_eq, leader_eq, ← List.getD_eq_getElem?_getD, ← List.getD_eq_getElem?_getD] at e
  exact (List.getD_inj (leaderIndex_lt c h r) (leaderIndex_lt c h r')
    ((sortKeys_perm c.keys).nodup_iff.mpr hw)).mp e

/-- The rounds of any window of `n` consecutive rounds have pairwise different values under `L`. -/
def InjOnWindows (L : Nat → Nat) (n : Nat) : Prop :=
  ∀ a x y, a ≤ x → x < a + n → a ≤ y → y < a + n → L x = L y → x = y

theorem leaders_distinct (c : Committee) (hw : c.WF) (h : c.keys ≠ []) :
    InjOnWindows c.leader c.keys.length := by
  intro a x y hx hx' hy hy' e
  rcases Nat.le_total x y with hle | hle
  · exact eq_of_mod_eq _ x y hle (Nat.lt_of_lt_of_le hy' (Nat.add_le_add_right hx _))
      (leader_inj_mod c hw h e)
  · exact (eq_of_mod_eq _ y x hle (Nat.lt_of_lt_of_le hx' (Nat.add_le_add_right hy _))
      (leader_inj_mod c hw h e).symm).symm

theorem exists_leader (c : Committee) (r0 k : Nat) (hk : k ∈ c.keys) :
    ∃ i, i < c.keys.length ∧ c.leader (r0 + i) = k := by
  obtain ⟨j, hj, hjk⟩ := List.getElem_of_mem ((mem_sortKeys _ _).mpr hk)
  obtain ⟨i, hi, him⟩ := mod_shift_exists c.keys.length r0 j (length_sortKeys _ ▸ hj)
  exact ⟨i, hi, by rw [leader_eq, him, List.getElem?_eq_getElem hj, hjk]; rfl⟩

end HS
