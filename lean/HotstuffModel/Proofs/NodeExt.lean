import HotstuffModel.Proofs.NodeMoves
/-!
What a move may change, proved once for all invariants (no invariant needed):
`Ext` (what only grows), `CoreOnly` (what the handling of a certificate can touch), `Move.quiet` (every
other move leaves round, high QC, aggregator and watermark alone, and what it records it records where
the code has established what the record stands for; `Move.records` is its reading for votes, 2-chains
and deliveries), `Move.queues` (what may enter the block queues, the store and the buffer; `Move.blocks`
sums it up for the blocks the node holds, `pendingBlocks`), `deliver_eq` (what a
delivery changes), `Steps.moves` (a micro-step that takes no block in has no delivery), and `step_induct`,
the induction along a micro-step that the invariant files use.
-/
namespace HS
open Node

structure Ext (s s' : Node) : Prop where
  round : s.round ≤ s'.round
  highQC : s.highQC.round ≤ s'.highQC.round
  lastVoted : s.lastVoted ≤ s'.lastVoted
  lastCommitted : s.lastCommitted ≤ s'.lastCommitted
  name : s'.name = s.name
  hist : ∃ new, s'.hist = new ++ s.hist ∧
    (s'.round ≠ s.round → ∃ ev, Out.entered s'.round ev ∈ new)
  avail : ∀ d, d ∈ s.avail → d ∈ s'.avail

theorem Ext.refl (s : Node) : Ext s s :=
  ⟨Nat.le_refl _, Nat.le_refl _, Nat.le_refl _, Nat.le_refl _, rfl, ⟨[], by simp⟩, fun _ h => h⟩

theorem Ext.trans {a b c : Node} (h1 : Ext a b) (h2 : Ext b c) : Ext a c := by
  obtain ⟨n1, e1, r1⟩ := h1.hist
  obtain ⟨n2, e2, r2⟩ := h2.hist
  refine ⟨Nat.le_trans h1.round h2.round, Nat.le_trans h1.highQC h2.highQC,
    Nat.le_trans h1.lastVoted h2.lastVoted, Nat.le_trans h1.lastCommitted h2.lastCommitted,
    h2.name.trans h1.name, ⟨n2 ++ n1, by rw [e2, e1]; simp, ?_⟩, fun d hd => h2.avail d (h1.avail d hd)⟩
  intro hne
  by_cases hbc : c.round = b.round
  · have : b.round ≠ a.round := by rw [← hbc]; exact hne
    obtain ⟨ev, hev⟩ := r1 this
    exact ⟨ev, by rw [hbc]; simp [hev]⟩
  · obtain ⟨ev, hev⟩ := r2 hbc
    exact ⟨ev, by simp [hev]⟩

theorem Ext.hist_mem {s s' : Node} (h : Ext s s') : ∀ o ∈ s.hist, o ∈ s'.hist := by
  obtain ⟨new, hn, _⟩ := h.hist
  intro o ho; rw [hn]; exact List.mem_append_right _ ho

/-- Every hypothesis but `hist` defaults to "unchanged", so a call names only what moves. -/
theorem Ext.of_sameRound {s s' : Node} (round : s'.round = s.round := by exact rfl)
    (highQC : s.highQC.round ≤ s'.highQC.round := by exact Nat.le_refl _)
    (lastVoted : s.lastVoted ≤ s'.lastVoted := by exact Nat.le_refl _)
    (lastCommitted : s.lastCommitted ≤ s'.lastCommitted := by exact Nat.le_refl _)
    (name : s'.name = s.name := by exact rfl) (hist : ∃ new, s'.hist = new ++ s.hist)
    (avail : ∀ d, d ∈ s.avail → d ∈ s'.avail := by exact fun _ hd => hd) : Ext s s' := by
  obtain ⟨new, hnew⟩ := hist
  exact ⟨by omega, highQC, lastVoted, lastCommitted, name, ⟨new, hnew, fun h => absurd round h⟩, avail⟩

theorem ext_emit (s : Node) (o : Out) : Ext s (s.emit o) :=
  .of_sameRound (hist := ⟨[o], rfl⟩)

theorem ext_fail (s : Node) (p : PanicSite) : Ext s (s.fail p) :=
  .of_sameRound (hist := ⟨[], rfl⟩)

theorem ext_setAgg (s : Node) (a : Aggregator) : Ext s { s with agg := a } :=
  .of_sameRound (hist := ⟨[], rfl⟩)

theorem ext_generateProposal (s : Node) (tc : Option TC) : Ext s (s.generateProposal tc) :=
  .of_sameRound (hist := ⟨[_], rfl⟩)

theorem ext_advanceRound (s : Node) (r : Nat) (ev : Evidence) : Ext s (s.advanceRound r ev) :=
  advanceRound_cases (fun _ => Ext.refl s) fun fresh =>
    ⟨Nat.le_succ_of_le fresh, Nat.le_refl _, Nat.le_refl _, Nat.le_refl _, rfl,
      ⟨[.entered (r + 1) ev], rfl, fun _ => ⟨ev, .head _⟩⟩, fun _ hd => hd⟩

theorem ext_processQC (s : Node) (qc : QC) : Ext s (s.processQC qc) :=
  updateHighQC_cases (fun _ => ext_advanceRound s _ _) fun new =>
    (ext_advanceRound s _ _).trans
      (.of_sameRound (highQC := Nat.le_of_lt new) (hist := ⟨[], rfl⟩))

theorem processQC_name (s : Node) (qc : QC) : (s.processQC qc).name = s.name :=
  (ext_processQC s qc).name

theorem ext_proposeIfLeader (c : Committee) (s : Node) (tc : Option TC) :
    Ext s (s.proposeIfLeader c tc) :=
  proposeIfLeader_cases (Ext.refl s) fun _ => ext_generateProposal s tc

theorem init_name (c : Committee) (i : Nat) : (Node.init c i).name = i :=
  init_eq c i ▸ (ext_proposeIfLeader c _ none).name

theorem ext_afterStore (s : Node) (b0 b1 b : Block) : Ext s (afterStore s b0 b1 b) :=
  .of_sameRound (hist := ⟨[], rfl⟩)

theorem ext_beforeCommit (s : Node) (b0 b1 b : Block) : Ext s (beforeCommit s b0 b1 b) :=
  (ext_afterStore s b0 b1 b).trans (.of_sameRound (hist := ⟨[_, _], rfl⟩))

/-- `deliver` moves the watermark and records the run `anc.reverse ++ [b]` (oldest first); nothing else.
Rewrite with this before reading any other field of `s.deliver b anc`. -/
theorem deliver_eq (s : Node) (b : Block) (anc : List Block) :
    s.deliver b anc = { s with lastCommitted := b.round,
                               hist := (anc.reverse ++ [b]).reverse.map Out.commit ++ s.hist } := by
  have : ∀ (l : List Block) (s : Node),
      l.foldl (fun s x => s.emit (.commit x)) s = { s with hist := l.reverse.map Out.commit ++ s.hist } := by
    intro l; induction l with
    | nil => intro s; rfl
    | cons a l ih => intro s; rw [List.foldl_cons, ih]; simp [emit]
  rw [deliver, this]

section
variable {c : Committee} {e : Event} {cur cur' : Option Block} {s s' : Node}

theorem ext_cert (m : CertMove c e s s') : Ext s s' := by
  cases m with
  | voteCounted v a => exact ext_setAgg s a
  | voteCertifies v a qc =>
    exact ((ext_setAgg s a).trans (ext_processQC _ qc)).trans (ext_proposeIfLeader c _ _)
  | timeoutSeen t => exact ext_processQC s _
  | timeoutCounted t a => exact (ext_processQC s _).trans (ext_setAgg _ a)
  | timeoutCertifies t a tc =>
    exact ((((ext_processQC s t.highQC).trans (ext_setAgg _ a)).trans (ext_advanceRound _ _ _)).trans
      (ext_emit _ _)).trans (ext_proposeIfLeader c _ _)
  | tcSeen tc => exact (ext_advanceRound s _ _).trans (ext_proposeIfLeader c _ _)
  | proposalCerts b =>
    exact (ext_processQC s _).trans (advanceTC_cases (Ext.refl _) fun _ _ => ext_advanceRound _ _ _)

end

/-- Every block that sits in a queue, is parked, or is stored. -/
def Node.pendingBlocks (s : Node) : List Block :=
  s.loopQ ++ s.syncPending ++ s.payPending.map Prod.fst ++ s.store.map Prod.snd

theorem mem_pendingBlocks {s : Node} {b : Block} : b ∈ s.pendingBlocks ↔
    b ∈ s.loopQ ∨ b ∈ s.syncPending ∨ (∃ m, (b, m) ∈ s.payPending) ∨ ∃ d, (d, b) ∈ s.store := by
  simp [Node.pendingBlocks]

theorem mem_removeAt {α : Type} {l : List α} {i : Nat} {x : α} (h : x ∈ removeAt l i) : x ∈ l :=
  List.mem_of_mem_eraseIdx (by rw [List.eraseIdx_eq_take_drop_succ]; exact h)

theorem Below.mono {s s' : Node} {b : Block} (h : Ext s s') (hb : Below s b) : Below s' b :=
  ⟨Nat.lt_of_lt_of_le hb.1 h.round, Nat.le_trans hb.2 h.highQC⟩

/-- The outputs that the handling of certificates records. -/
def Out.isCore : Out → Bool
  | .entered _ _ => true
  | .make _ _ _ => true
  | .tc _ => true
  | _ => false

/-- Of what the invariants read, only the round, the high QC, the aggregator, the proposer's queue and
the history differ, and the history only by round changes, `Make`s and TCs.  Every field defaults to
"unchanged". -/
structure CoreOnly (s s' : Node) : Prop where
  hist : ∃ new, s'.hist = new ++ s.hist ∧ ∀ o ∈ new, o.isCore = true := by
    exact ⟨[], rfl, List.forall_mem_nil _⟩
  store : s'.store = s.store := by exact rfl
  avail : s'.avail = s.avail := by exact rfl
  panic : s'.panic = s.panic := by exact rfl
  lastVoted : s'.lastVoted = s.lastVoted := by exact rfl
  lastCommitted : s'.lastCommitted = s.lastCommitted := by exact rfl
  loopQ : s'.loopQ = s.loopQ := by exact rfl
  buffer : s'.buffer = s.buffer := by exact rfl
  syncPending : s'.syncPending = s.syncPending := by exact rfl
  payPending : s'.payPending = s.payPending := by exact rfl
  name : s'.name = s.name := by exact rfl

theorem CoreOnly.trans {a b c : Node} (h1 : CoreOnly a b) (h2 : CoreOnly b c) : CoreOnly a c :=
  ⟨by
    obtain ⟨n1, e1, p1⟩ := h1.hist
    obtain ⟨n2, e2, p2⟩ := h2.hist
    exact ⟨n2 ++ n1, by rw [e2, e1, List.append_assoc],
      fun o ho => (List.mem_append.mp ho).elim (p2 o) (p1 o)⟩,
    h2.store.trans h1.store, h2.avail.trans h1.avail, h2.panic.trans h1.panic,
    h2.lastVoted.trans h1.lastVoted, h2.lastCommitted.trans h1.lastCommitted, h2.loopQ.trans h1.loopQ,
    h2.buffer.trans h1.buffer, h2.syncPending.trans h1.syncPending, h2.payPending.trans h1.payPending,
    h2.name.trans h1.name⟩

theorem CoreOnly.refl (s : Node) : CoreOnly s s := {}

theorem coreOnly_advanceRound (s : Node) (r : Nat) (ev : Evidence) : CoreOnly s (s.advanceRound r ev) :=
  advanceRound_cases (fun _ => .refl s) fun _ => { hist := ⟨[_], rfl, List.forall_mem_singleton.2 rfl⟩ }

theorem coreOnly_processQC (s : Node) (qc : QC) : CoreOnly s (s.processQC qc) :=
  updateHighQC_cases (fun _ => coreOnly_advanceRound s _ _) fun _ =>
    (coreOnly_advanceRound s _ _).trans {}

theorem coreOnly_advanceTC (s : Node) (tc : Option TC) : CoreOnly s (s.advanceTC tc) :=
  advanceTC_cases (.refl s) fun _ _ => coreOnly_advanceRound s _ _

theorem coreOnly_proposeIfLeader (c : Committee) (s : Node) (tc : Option TC) :
    CoreOnly s (s.proposeIfLeader c tc) :=
  proposeIfLeader_cases (.refl s) fun _ => { hist := ⟨[_], rfl, List.forall_mem_singleton.2 rfl⟩ }

section
variable {c : Committee} {e : Event} {cur cur' : Option Block} {s s' : Node}

theorem CertMove.coreOnly (m : CertMove c e s s') : CoreOnly s s' := by
  have agg : ∀ (s : Node) a, CoreOnly s { s with agg := a } := fun _ _ => {}
  cases m with
  | voteCounted v a => exact agg s a
  | voteCertifies v a qc =>
    exact ((agg s a).trans (coreOnly_processQC _ qc)).trans (coreOnly_proposeIfLeader c _ _)
  | timeoutSeen t => exact coreOnly_processQC s _
  | timeoutCounted t a => exact (coreOnly_processQC s _).trans (agg _ a)
  | timeoutCertifies t a tc =>
    have emit : ∀ s : Node, CoreOnly s (s.emit (.tc tc)) :=
      fun _ => { hist := ⟨[.tc tc], rfl, List.forall_mem_singleton.2 rfl⟩ }
    exact ((((coreOnly_processQC s _).trans (agg _ a)).trans (coreOnly_advanceRound _ tc.round (.tc tc))).trans
      (emit _)).trans (coreOnly_proposeIfLeader c _ _)
  | tcSeen tc => exact (coreOnly_advanceRound s _ _).trans (coreOnly_proposeIfLeader c _ _)
  | proposalCerts b => exact (coreOnly_processQC s _).trans (coreOnly_advanceTC _ _)

/-- What the code has established where a move other than the handling of a certificate records `o`
(`s` before the move, `s'` after, `cur` the block in flight). -/
def Out.recordedBy (c : Committee) (cur : Option Block) (s s' : Node) : Out → Prop
  | .voted b => cur = some b ∧ b.round = s.round ∧ safetyRule2 b = some true ∧
      s'.lastVoted = max s.lastVoted s.round
  | .timeout t => t = s.ownTimeout ∧ s'.lastVoted = max s.lastVoted s.round
  | .twoChain b0 b1 b => cur = some b ∧ Ancestors c s b b1 b0 ∧ Gen.twoChainRule b0.round b1.round = true
  | .propose b => ∃ r qc tc order, PMsg.make r qc tc ∈ s.propQ ∧ b = ownBlock s.name r qc tc order
  | .helperReply _ b => ∃ d, (d, b) ∈ s.store
  | .commit _ | .entered _ _ | .make _ _ _ | .tc _ => False
  | _ => True

/-- What a move may add to the queues and the store, queue by queue.  Every field defaults to
"nothing is added", so a move names only the queues it touches. -/
structure Queues (c : Committee) (e : Event) (cur : Option Block) (s s' : Node) : Prop where
  loopQ : ∀ x ∈ s'.loopQ, x ∈ s.loopQ ∨ x ∈ s.syncPending ∨
      (∃ r qc tc order, PMsg.make r qc tc ∈ s.propQ ∧ isPerm order s.buffer = true ∧
        x = ownBlock s.name r qc tc order) ∨
      ∃ l, (x, l) ∈ s.payPending ∧ l.all (fun d => s.avail.contains d) = true := by
    exact fun _ h => .inl h
  syncPending : ∀ x ∈ s'.syncPending, x ∈ s.syncPending ∨ cur = some x ∨ ∃ d, (d, x) ∈ s.store := by
    exact fun _ h => .inl h
  store : ∀ d x, (d, x) ∈ s'.store → (d, x) ∈ s.store ∨ (cur = some x ∧ d = x.digest) := by
    exact fun _ _ h => .inl h
  payPending : ∀ x l, (x, l) ∈ s'.payPending → (x, l) ∈ s.payPending ∨
      (l = x.payload.filter (fun d => !s.avail.contains d) ∧ e = .msg (.propose x) ∧
        x.author = c.leader x.round ∧ x.verify c = .ok () ∧ Below s x) := by
    exact fun _ _ h => .inl h
  buffer : ∀ d ∈ s'.buffer, d ∈ s.buffer ∨ d ∈ s.avail := by exact fun _ h => .inl h

/-- What a move other than the handling of a certificate may change of what the invariants read.
Every field defaults to "unchanged, nothing recorded, nothing added". -/
structure Quiet (c : Committee) (e : Event) (cur : Option Block) (s s' : Node) : Prop
    extends Queues c e cur s s' where
  round : s'.round = s.round := by exact rfl
  highQC : s'.highQC = s.highQC := by exact rfl
  agg : s'.agg = s.agg := by exact rfl
  lastCommitted : s'.lastCommitted = s.lastCommitted := by exact rfl
  lastVoted : s'.lastVoted = s.lastVoted ∨ s'.lastVoted = max s.lastVoted s.round := by exact .inl rfl
  name : s'.name = s.name := by exact rfl
  avail : ∀ d ∈ s.avail, d ∈ s'.avail := by exact fun _ hd => hd
  propQ : ∀ x ∈ s'.propQ, x ∈ s.propQ ∨ ∃ ds, x = .cleanup ds := by exact fun _ hx => .inl hx
  hist : ∃ new, s'.hist = new ++ s.hist ∧ ∀ o ∈ new, o.recordedBy c cur s s' := by
    exact ⟨[], rfl, List.forall_mem_nil _⟩

/-- The one case analysis over what the moves change (`Move.cur_eq` below only tells which moves take
a block in); `ext_move`, `Move.queues`, `Move.records`, `Move.blocks`, `Move.lastCommitted` read it. -/
theorem Move.quiet (m : Move c e cur s cur' s') : CertMove c e s s' ∨ Quiet c e cur s s' := by
  have cleanup : ∀ ds, ∀ x ∈ s.propQ ++ [PMsg.cleanup ds], x ∈ s.propQ ∨ ∃ ds, x = PMsg.cleanup ds :=
    fun _ x hx => (List.mem_append.mp hx).imp id fun hx => ⟨_, List.mem_singleton.mp hx⟩
  have stored : ∀ b d x, (d, x) ∈ (b.digest, b) :: s.store →
      (d, x) ∈ s.store ∨ (some b = some x ∧ d = x.digest) :=
    fun _ _ _ h => (List.mem_cons.mp h).symm.imp_right fun e => by cases e; exact ⟨rfl, rfl⟩
  -- the parked `x` is the block in flight or a stored one
  have parked : ∀ (b x : Block), (x = b ∨ ∃ d, (d, x) ∈ s.store) → ∀ y ∈ s.syncPending ++ [x],
      y ∈ s.syncPending ∨ some b = some y ∨ ∃ d, (d, y) ∈ s.store :=
    fun _ x held y h => (mem_snoc h).imp_right fun (e : y = x) =>
      e ▸ held.imp (fun xb => congrArg some xb.symm) id
  cases m with
  | cert m => exact .inl m
  | proposalEnters | ancestorFails | commitFails | emptyTC | noNextLeader | helperFails => exact .inr {}
  | batchStored => exact .inr { avail := fun _ hd => List.mem_cons_of_mem _ hd }
  | proposalAsks | voteSent | voteKept | syncRetries =>
    exact .inr { hist := ⟨[_], rfl, List.forall_mem_singleton.2 trivial⟩ }
  | timerFired =>
    exact .inr { lastVoted := .inr rfl, hist := ⟨[_], rfl, List.forall_mem_singleton.2 ⟨rfl, rfl⟩⟩ }
  | votes b _ round _ rule2 =>
    exact .inr { lastVoted := .inr (round ▸ rfl)
                 hist := ⟨[_], rfl, List.forall_mem_singleton.2 ⟨rfl, round, rule2, round ▸ rfl⟩⟩ }
  | helperReplies d origin b _ _ found =>
    exact .inr
      { hist := ⟨[_], rfl, List.forall_mem_singleton.2 ⟨d, mem_of_lookup (readBlock_found found)⟩⟩ }
  | loopback b rest _ hq => exact .inr { loopQ := fun _ h => .inl (hq ▸ List.mem_cons_of_mem _ h) }
  | parksBehind b x held | parksUnknown b x held => exact .inr { syncPending := parked b x held }
  | parksAsks b x held =>
    exact .inr { syncPending := parked b x held, hist := ⟨[_], rfl, List.forall_mem_singleton.2 trivial⟩ }
  | stores b => exact .inr { propQ := cleanup _, store := stored b }
  | storesChain b b1 b0 anc chain =>
    rw [beforeCommit_eq]
    exact .inr { propQ := cleanup _, store := stored b
                 payPending := fun _ _ h => .inl (List.mem_filter.mp h).1
                 hist := ⟨[_, _], rfl,
                   List.forall_mem_cons.2 ⟨⟨rfl, anc, chain⟩, List.forall_mem_singleton.2 trivial⟩⟩ }
  | proposalWaits b he ldr ok below =>
    exact .inr { payPending := fun _ _ h => (mem_snoc h).imp_right fun e => by
                   cases e; exact ⟨rfl, he, ldr, ok, below⟩ }
  | proposerCleans _ _ _ hq =>
    exact .inr { propQ := fun x hx => .inl (hq ▸ List.mem_cons_of_mem _ hx)
                 buffer := fun _ h => .inl (List.mem_filter.mp h).1 }
  | digestBuffered d _ mem =>
    exact .inr { buffer := fun y h => (mem_snoc h).imp_right fun (e : y = d) => (e ▸ mem : y ∈ s.avail) }
  | proposes order r qc tc _ _ hq perm =>
    exact .inr { propQ := fun x hx => .inl (hq ▸ List.mem_cons_of_mem _ hx)
                 hist := ⟨[_], rfl, List.forall_mem_singleton.2 ⟨r, qc, tc, order, hq ▸ .head _, rfl⟩⟩
                 loopQ := fun _ h => (mem_snoc h).imp_right fun e =>
                   .inr (.inl ⟨r, qc, tc, order, hq ▸ .head _, perm, e⟩)
                 buffer := fun _ h => nomatch h }
  | syncResumes i b _ hb =>
    exact .inr { loopQ := fun y h => (mem_snoc h).imp_right fun (e : y = b) =>
                   .inl (e ▸ List.mem_of_getElem? hb)
                 syncPending := fun _ h => .inl (mem_removeAt h) }
  | payloadResumes i b missing _ hb here =>
    exact .inr { loopQ := fun y h => (mem_snoc h).imp_right fun (e : y = b) =>
                   .inr (.inr ⟨missing, e ▸ List.mem_of_getElem? hb, here⟩)
                 payPending := fun _ _ h => .inl (mem_removeAt h) }

theorem ext_move (m : Move c e cur s cur' s') : Ext s s' :=
  m.quiet.elim ext_cert fun q =>
    .of_sameRound (round := q.round) (highQC := Nat.le_of_eq (congrArg _ q.highQC.symm))
      (lastVoted := q.lastVoted.elim (fun h => Nat.le_of_eq h.symm) fun h => h ▸ Nat.le_max_left ..)
      (lastCommitted := Nat.le_of_eq q.lastCommitted.symm) (name := q.name)
      (hist := q.hist.imp fun _ h => h.1) (avail := q.avail)

theorem Move.queues (m : Move c e cur s cur' s') : Queues c e cur s s' :=
  m.quiet.elim (fun m =>
    have := m.coreOnly
    ⟨fun _ h => .inl (this.loopQ ▸ h), fun _ h => .inl (this.syncPending ▸ h),
      fun _ _ h => .inl (this.store ▸ h), fun _ _ h => .inl (this.payPending ▸ h),
      fun _ h => .inl (this.buffer ▸ h)⟩) (·.toQueues)

/-- A block that a move adds to those the node holds is the block in flight, a proposal that has to
wait for its batches, or the block the node's own proposer has just made. -/
theorem Move.blocks (m : Move c e cur s cur' s') :
    ∀ x ∈ s'.pendingBlocks, x ∈ s.pendingBlocks ∨ cur = some x ∨
      (e = .msg (.propose x) ∧ x.author = c.leader x.round ∧ x.verify c = .ok () ∧ Below s x) ∨
      ∃ r qc tc order, PMsg.make r qc tc ∈ s.propQ ∧ x = ownBlock s.name r qc tc order := by
  have q := m.queues
  intro x hx
  rw [mem_pendingBlocks] at hx ⊢
  rcases hx with hx | hx | ⟨l, hx⟩ | ⟨d, hx⟩
  · rcases q.loopQ x hx with hx | hx | ⟨r, qc, tc, order, hm, _, rfl⟩ | ⟨l, hl, _⟩
    · exact .inl (.inl hx)
    · exact .inl (.inr (.inl hx))
    · exact .inr (.inr (.inr ⟨r, qc, tc, order, hm, rfl⟩))
    · exact .inl (.inr (.inr (.inl ⟨l, hl⟩)))
  · rcases q.syncPending x hx with hx | hx | hx
    · exact .inl (.inr (.inl hx))
    · exact .inr (.inl hx)
    · exact .inl (.inr (.inr (.inr hx)))
  · exact (q.payPending x l hx).imp (fun hx => .inr (.inr (.inl ⟨l, hx⟩))) fun hx => .inr (.inl hx.2)
  · exact (q.store d x hx).imp (fun hx => .inr (.inr (.inr ⟨d, hx⟩))) fun hx => .inl hx.1

theorem Move.lastCommitted (m : Move c e cur s cur' s') : s'.lastCommitted = s.lastCommitted :=
  m.quiet.elim (·.coreOnly.lastCommitted) (·.lastCommitted)

theorem Move.records (m : Move c e cur s cur' s') : ∃ new, s'.hist = new ++ s.hist ∧
      (∀ b, Out.voted b ∈ new → cur = some b) ∧
      (∀ b0 b1 b, Out.twoChain b0 b1 b ∈ new →
        cur = some b ∧ Ancestors c s b b1 b0 ∧ Gen.twoChainRule b0.round b1.round = true) ∧
      ∀ x, Out.commit x ∉ new := by
  rcases m.quiet with m | q
  · obtain ⟨new, hh, core⟩ := m.coreOnly.hist
    exact ⟨new, hh, fun _ h => (Bool.false_ne_true (core _ h)).elim,
      fun _ _ _ h => (Bool.false_ne_true (core _ h)).elim, fun _ h => Bool.false_ne_true (core _ h)⟩
  · obtain ⟨new, hh, rec⟩ := q.hist
    -- `Out.recordedBy … (.commit _)` is `False`
    exact ⟨new, hh, fun _ h => (rec _ h).1, fun _ _ _ h => rec _ h, fun _ h => rec _ h⟩

theorem Move.cur_eq (m : Move c e cur s cur' s') :
    cur' = cur ∨ (cur = none ∧ ((∃ b, e = .msg (.propose b)) ∨ e = .loopback)) := by
  cases m with
  | proposalEnters b he => exact .inr ⟨rfl, .inl ⟨b, he⟩⟩
  | loopback _ _ he => exact .inr ⟨rfl, .inr he⟩
  | _ => exact .inl rfl

/-- Only a proposal or the loop-back channel puts a block in flight, and a delivery needs one. -/
theorem Steps.moves (h : Steps c e none s cur s') (hp : ∀ b, e ≠ .msg (.propose b))
    (hl : e ≠ .loopback) : Moves c e none s cur s' := by
  have staysNone : ∀ {cur s cur' s'}, Moves c e cur s cur' s' → cur = none → cur' = none := by
    intro cur s cur' s' m
    induction m with
    | nil => exact id
    | cons m _ ih =>
      intro hc
      refine ih ?_
      rcases m.cur_eq with h | ⟨_, ⟨b, he⟩ | he⟩
      · exact h.trans hc
      · exact absurd he (hp b)
      · exact absurd he hl
  obtain ⟨_, _, _, a, d, b⟩ := h
  rcases d with rfl | d
  · exact a.trans b
  · cases staysNone a rfl  -- no block in flight, so no `Delivery`
    cases d

theorem ext_delivery (d : Delivery c cur s s') :
    Ext s s' := by
  cases d with
  | mk b b1 b0 anc top stored new walk =>
    have new : s.lastCommitted ≤ b0.round := Nat.le_of_lt (Nat.lt_of_not_le new)
    rw [deliver_eq]
    exact .of_sameRound (lastCommitted := new) (hist := ⟨_, rfl⟩)

theorem ext_moves (m : Moves c e cur s cur' s') : Ext s s' := by
  induction m with
  | nil => exact Ext.refl _
  | cons m _ ih => exact (ext_move m).trans ih

theorem ext_steps (h : Steps c e cur s cur' s') : Ext s s' := by
  obtain ⟨_, _, _, a, d, b⟩ := h
  rcases d with rfl | d
  · exact (ext_moves a).trans (ext_moves b)
  · exact ((ext_moves a).trans (ext_delivery d)).trans (ext_moves b)

end

theorem ext_sendVote (c : Committee) (s : Node) (v : Vote) : Ext s (sendVote c s v) := by
  unfold sendVote
  split
  · exact (ext_emit _ _).trans (ext_moves (moves_handleVote (cur := none) c (.msg (.vote v)) _ v (.inl rfl)))
  · split
    · exact ext_emit _ _
    · exact ext_fail _ _

/-- `voteStage` does not look at the event: any will do for the moves. -/
theorem ext_voteStage (c : Committee) (s : Node) (ok : Bool) (b : Block) : Ext s (voteStage c s ok b) :=
  ext_moves (moves_voteStage c .timer s ok b)

theorem ext_step (c : Committee) (s : Node) (e : Event) : Ext s (step c s e) :=
  (step_steps c s e).elim fun _ => ext_steps

theorem ext_run (c : Committee) (s : Node) (es : List Event) : Ext s (run c s es) :=
  run_induct (fun s' e h => h.trans (ext_step c s' e)) (Ext.refl s) es

/-- The recipe for an invariant `P`.  A micro-step keeps `P` if every move and a delivery keep it,
given that the block in flight is good (`B`); the move that takes a block in makes it good, and
goodness survives whatever only moves the counters up and adds to history and batches. -/
theorem step_induct {c : Committee} {e : Event} {P : Node → Prop} {B : Node → Block → Prop}
    (mono : ∀ {s s' b}, Ext s s' → B s b → B s' b)
    (enter : ∀ {s b s'}, Move c e none s (some b) s' → P s → B s' b)
    (move : ∀ {cur s cur' s'}, Move c e cur s cur' s' → P s → (∀ b, cur = some b → B s b) → P s')
    (delivery : ∀ {b s s'}, Delivery c (some b) s s' → P s → B s b → P s')
    {s : Node} (hP : P s) : P (step c s e) := by
  have moves : ∀ {cur s cur' s'}, Moves c e cur s cur' s' → P s → (∀ b, cur = some b → B s b) →
      P s' ∧ (∀ b, cur' = some b → B s' b) := by
    intro cur s cur' s' m
    induction m with
    | nil => exact fun hP hB => ⟨hP, hB⟩
    | @cons cur s cur₁ s₁ _ _ m _ ih =>
      intro hP hB
      refine ih (move m hP hB) ?_
      intro b hb
      subst hb
      cases cur with
      | none => exact enter m hP
      | some b' =>
        cases m.cur_eq.resolve_right (fun h => nomatch h.1)
        exact mono (ext_move m) (hB b rfl)
  obtain ⟨_, cur₁, s₁, s₂, a, d, b⟩ := step_steps c s e
  obtain ⟨hP₁, hB₁⟩ := moves a hP (fun _ h => nomatch h)
  rcases d with rfl | d
  · exact (moves b hP₁ hB₁).1
  · cases d with
    | mk b' b1 b0 anc top stored new walk =>
      have d := Delivery.mk (c := c) b' b1 b0 anc top stored new walk
      exact (moves b (delivery d hP₁ (hB₁ b' rfl)) (fun b'' h => mono (ext_delivery d) (hB₁ b'' h))).1

end HS
