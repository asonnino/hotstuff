import HotstuffModel.Proofs.Weight
/-!
Abstract agreement theorem of 2-chain HotStuff (DESIGN C01, Layer A).

Blocks are an arbitrary type `β` with a `parent` function and a `round`; honest behaviour is
given by two relations (`voted`, `timedOut`) constrained by `LocalInv`: three LOCAL invariants
(I1, I2, I3) and the normalisation that genesis has round 0; Byzantine nodes are unconstrained.
Conclusion: any two committed blocks lie on one chain.  After it, what the delivery logs need
(`Proofs/GlobalCommit`): below a certified block rounds strictly decrease and every block but
genesis is certified (`anc_round`, `Committed.certified`), so the parent of a certified block is
found by its round (`junction`, `junction_first`).
-/
namespace HS.Abs
open HS.Q

structure Ctx where
  nodes : List Nat
  stake : Nat → Nat
  bad : Nat → Bool
  q : Nat
  f : Nat
  nodes_nodup : nodes.Nodup
  bad_le : weight stake (nodes.filter bad) ≤ f
  quorum_gt : weight stake nodes + f < 2 * q

structure Hist (β : Type) where
  parent : β → β
  round : β → Nat
  /-- honest `h` signed a vote for block `b` (for `b`'s own round) -/
  voted : Nat → β → Prop
  /-- honest `h` signed a timeout for round `t` reporting high-QC round `hq` -/
  timedOut : Nat → Nat → Nat → Prop

variable {β : Type} (c : Ctx) (H : Hist β) (g : β)

/-- A quorum certificate for `b` exists: its honest signers really voted for `b`. -/
def Certified (b : β) : Prop :=
  ∃ S : List Nat, S.Nodup ∧ (∀ x ∈ S, x ∈ c.nodes) ∧ c.q ≤ weight c.stake S ∧
    ∀ s ∈ S, c.bad s = false → H.voted s b

/-- A timeout certificate for round `t` reporting the high-QC rounds `highs` exists. -/
def ValidTC (t : Nat) (highs : List Nat) : Prop :=
  ∃ E : List (Nat × Nat), (E.map Prod.fst).Nodup ∧ (∀ x ∈ E.map Prod.fst, x ∈ c.nodes) ∧
    c.q ≤ weight c.stake (E.map Prod.fst) ∧ highs = E.map Prod.snd ∧
    ∀ e ∈ E, c.bad e.1 = false → H.timedOut e.1 t e.2

structure LocalInv : Prop where
  genesis_round : H.round g = 0
  /-- I1: an honest node signs at most one vote per round -/
  one_vote : ∀ h b b', c.bad h = false → H.voted h b → H.voted h b' → H.round b = H.round b' → b = b'
  /-- I2: what an honest node votes for extends a lower-round parent that is genesis or certified,
  directly or via a TC none of whose reported high-QC rounds exceeds the parent's round -/
  justified : ∀ h b, c.bad h = false → H.voted h b →
    H.round (H.parent b) < H.round b ∧
    (H.parent b = g ∨ Certified c H (H.parent b)) ∧
    (H.round (H.parent b) + 1 = H.round b ∨
      ∃ highs, ValidTC c H (H.round b - 1) highs ∧ ∀ x ∈ highs, x ≤ H.round (H.parent b))
  /-- I3: a timeout for round `t` reports a QC at least as high as the parent of any block the node
  voted for in a round `≤ t` -/
  timeout_high : ∀ h b t hq, c.bad h = false → H.voted h b → H.timedOut h t hq →
    H.round b ≤ t → H.round (H.parent b) ≤ hq

def anc (H : Hist β) : Nat → β → β
  | 0, b => b
  | k + 1, b => anc H k (H.parent b)

/-- `a` is `b` or an ancestor of `b`. -/
def Extends (b a : β) : Prop := ∃ k : Nat, anc H k b = a

theorem anc_add (i j : Nat) (b : β) : anc H (i + j) b = anc H j (anc H i b) := by
  induction i generalizing b with
  | zero => rw [Nat.zero_add]; rfl
  | succ i ih => rw [Nat.add_right_comm]; exact ih _

theorem Extends.refl (b : β) : Extends H b b := ⟨0, rfl⟩

theorem Extends.trans {a b d : β} (h1 : Extends H a b) (h2 : Extends H b d) : Extends H a d := by
  obtain ⟨i, rfl⟩ := h1
  obtain ⟨j, rfl⟩ := h2
  exact ⟨i + j, anc_add H i j a⟩

theorem Extends.step {a b : β} (h : Extends H (H.parent a) b) : Extends H a b := by
  obtain ⟨k, hk⟩ := h
  exact ⟨k + 1, hk⟩

theorem extends_iff {b a : β} : Extends H b a ↔ b = a ∨ Extends H (H.parent b) a := by
  refine ⟨?_, fun h => h.elim (· ▸ .refl H b) (.step H)⟩
  rintro ⟨k, hk⟩
  cases k with
  | zero => exact .inl hk
  | succ k => exact .inr ⟨k, hk⟩

theorem extends_of_anc_le {d x y : β} {i j : Nat} (hi : anc H i d = x) (hj : anc H j d = y)
    (h : i ≤ j) : Extends H x y :=
  ⟨j - i, by rw [← hi, ← anc_add, Nat.add_sub_cancel' h, hj]⟩

theorem ancestors_comparable {d x y : β} (hx : Extends H d x) (hy : Extends H d y) :
    Extends H x y ∨ Extends H y x := by
  obtain ⟨i, hi⟩ := hx
  obtain ⟨j, hj⟩ := hy
  exact (Nat.le_total i j).imp (extends_of_anc_le H hi hj) (extends_of_anc_le H hj hi)

theorem quorums_meet {S S' : List Nat} (hn : S.Nodup) (hs : ∀ x ∈ S, x ∈ c.nodes)
    (hq : c.q ≤ weight c.stake S) (hn' : S'.Nodup) (hs' : ∀ x ∈ S', x ∈ c.nodes)
    (hq' : c.q ≤ weight c.stake S') : ∃ x, x ∈ S ∧ x ∈ S' ∧ c.bad x = false :=
  quorum_intersection c.stake c.nodes S S' c.bad c.q c.f
    (ha := hn) (han := hs) (hqa := hq) (hb := hn') (hbn := hs') (hqb := hq')
    (hn := c.nodes_nodup) (hbad := c.bad_le) (hq := c.quorum_gt)

theorem quorum_has_honest (S : List Nat) (hn : S.Nodup) (hs : ∀ x ∈ S, x ∈ c.nodes)
    (hq : c.q ≤ weight c.stake S) : ∃ x, x ∈ S ∧ c.bad x = false := by
  obtain ⟨x, hx, _, hb⟩ := quorums_meet c hn hs hq hn hs hq
  exact ⟨x, hx, hb⟩

section
variable {c} {H} {g}

theorem Certified.common_voter {b b' : β} (hb : Certified c H b) (hb' : Certified c H b') :
    ∃ x, c.bad x = false ∧ H.voted x b ∧ H.voted x b' := by
  obtain ⟨S, hn, hs, hq, hv⟩ := hb
  obtain ⟨S', hn', hs', hq', hv'⟩ := hb'
  obtain ⟨x, hx, hx', hbx⟩ := quorums_meet c hn hs hq hn' hs' hq'
  exact ⟨x, hbx, hv x hx hbx, hv' x hx' hbx⟩

theorem Certified.voter_timedOut {b : β} {t : Nat} {highs : List Nat} (hb : Certified c H b)
    (ht : ValidTC c H t highs) :
    ∃ x hq, c.bad x = false ∧ H.voted x b ∧ H.timedOut x t hq ∧ hq ∈ highs := by
  obtain ⟨S, hn, hs, hq, hv⟩ := hb
  obtain ⟨E, hEn, hEs, hEq, rfl, hEv⟩ := ht
  obtain ⟨x, hx, hxE, hbx⟩ := quorums_meet c hn hs hq hEn hEs hEq
  obtain ⟨e, he, rfl⟩ := List.mem_map.mp hxE
  exact ⟨e.1, e.2, hbx, hv _ hx hbx, hEv e he hbx, List.mem_map_of_mem he⟩

theorem LocalInv.ne_genesis (L : LocalInv c H g) {b : β} (h : 0 < H.round b) : b ≠ g :=
  fun e => by rw [e, L.genesis_round] at h; exact Nat.lt_irrefl 0 h

theorem certified_parent (L : LocalInv c H g) {d : β} (hd : Certified c H d) :
    H.round (H.parent d) < H.round d ∧ (H.parent d = g ∨ Certified c H (H.parent d)) := by
  obtain ⟨x, hbx, hv, _⟩ := hd.common_voter hd
  exact ⟨(L.justified x d hbx hv).1, (L.justified x d hbx hv).2.1⟩

end

theorem certified_round_pos (L : LocalInv c H g) {b : β} (hb : Certified c H b) : 0 < H.round b :=
  Nat.zero_lt_of_lt (certified_parent L hb).1

theorem certified_unique (L : LocalInv c H g) {b b' : β}
    (hb : Certified c H b) (hb' : Certified c H b') (hr : H.round b = H.round b') : b = b' := by
  obtain ⟨x, hbx, hv, hv'⟩ := hb.common_voter hb'
  exact L.one_vote x b b' hbx hv hv' hr

/-- `B` is the head of a certified 2-chain with consecutive rounds. -/
def DirectCommit (B : β) : Prop :=
  ∃ B1, H.parent B1 = B ∧ H.round B1 = H.round B + 1 ∧ Certified c H B1

/-- The heart of the safety argument: every certified block of a round `≥ round B` extends a
directly committed block `B`. -/
theorem certified_extends (L : LocalInv c H g) {B : β} (hB : Certified c H B)
    (hD : DirectCommit c H B) :
    ∀ r' B', Certified c H B' → H.round B' = r' → H.round B ≤ r' → Extends H B' B := by
  obtain ⟨B1, hp1, hr1, hc1⟩ := hD
  intro r'
  induction r' using Nat.strongRecOn with
  | _ r' ih =>
    intro B' hB' hr' hle
    subst hr'
    rcases Nat.lt_or_ge (H.round B + 1) (H.round B') with hgt | hle1
    · -- a later round: the parent of `B'` is certified and of round at least `round B`
      obtain ⟨x, hbx, hv, _⟩ := hB'.common_voter hB'
      obtain ⟨hlt, hpar, hjust⟩ := L.justified x B' hbx hv
      have hPge : H.round B ≤ H.round (H.parent B') := by
        rcases hjust with hcons | ⟨highs, htc, hall⟩
        · omega
        · -- an honest voter for `B1` signed the TC of round `round B' - 1 ≥ round B1`, so the
          -- high-QC round it reported there is at least the round of `B1`'s parent `B`
          obtain ⟨y, hq, hby, hvy, hto, hmem⟩ := hc1.voter_timedOut htc
          have := L.timeout_high y B1 _ hq hby hvy hto (hr1 ▸ Nat.le_sub_one_of_lt hgt)
          exact hp1 ▸ Nat.le_trans this (hall hq hmem)
      have hPcert : Certified c H (H.parent B') :=
        hpar.resolve_left (L.ne_genesis (Nat.lt_of_lt_of_le (certified_round_pos c H g L hB) hPge))
      exact Extends.step H (ih _ hlt _ hPcert rfl hPge)
    · -- round `B` or `B + 1`: the one certified block of that round is `B` or `B1`
      rcases Nat.lt_or_ge (H.round B) (H.round B') with h1 | h0
      · rw [certified_unique c H g L hB' hc1 ((Nat.le_antisymm hle1 h1).trans hr1.symm), ← hp1]
        exact ⟨1, rfl⟩
      · rw [certified_unique c H g L hB' hB (Nat.le_antisymm h0 hle)]; exact Extends.refl H B

/-- `x` is committed: it is the head of a certified consecutive 2-chain, or an ancestor of one. -/
def Committed (x : β) : Prop :=
  ∃ D, Certified c H D ∧ DirectCommit c H D ∧ Extends H D x

/-- AGREEMENT: any two committed blocks lie on a single chain. -/
theorem agreement (L : LocalInv c H g) {x y : β}
    (hx : Committed c H x) (hy : Committed c H y) : Extends H x y ∨ Extends H y x := by
  obtain ⟨Dx, hcx, hdx, hex⟩ := hx
  obtain ⟨Dy, hcy, hdy, hey⟩ := hy
  rcases Nat.le_total (H.round Dx) (H.round Dy) with h | h
  · have hDD := certified_extends c H g L hcx hdx (H.round Dy) Dy hcy rfl h
    exact ancestors_comparable H (hDD.trans H hex) hey
  · have hDD := certified_extends c H g L hcy hdy (H.round Dx) Dx hcx rfl h
    exact ancestors_comparable H hex (hDD.trans H hey)

/-! ### The chain below a certified block

Its ancestors other than genesis are certified and their rounds strictly decrease, so on such a
chain a block is found by its round. -/
section
variable {c} {H} {g}

theorem Certified.ne_genesis (L : LocalInv c H g) {b : β} (hb : Certified c H b) : b ≠ g :=
  L.ne_genesis (certified_round_pos c H g L hb)

theorem anc_genesis (hg : H.parent g = g) (k : Nat) : anc H k g = g := by
  induction k with
  | zero => rfl
  | succ k ih => rw [anc, hg, ih]

theorem anc_round (L : LocalInv c H g) (hg : H.parent g = g) (k : Nat) :
    ∀ d e : β, d = g ∨ Certified c H d → anc H k d = e → e ≠ g →
      H.round e + k ≤ H.round d ∧ Certified c H e := by
  induction k with
  | zero => intro d e hd h hne; cases h; exact ⟨Nat.le_refl _, hd.resolve_left hne⟩
  | succ k ih =>
    rintro d e (rfl | hd) h hne
    · rw [anc_genesis hg] at h; exact absurd h.symm hne
    · obtain ⟨hlt, hp⟩ := certified_parent L hd
      have := ih _ e hp h hne
      exact ⟨by omega, this.2⟩

theorem Committed.certified (L : LocalInv c H g) (hg : H.parent g = g) {x : β}
    (hx : Committed c H x) (hne : x ≠ g) : Certified c H x := by
  obtain ⟨D, hD, _, k, hk⟩ := hx
  exact (anc_round L hg k D x (.inr hD) hk hne).2

/-- The junction argument: a certified block `first` on one chain with a certified block `prev` of
lower round, and which attaches at `prev`'s round, has `prev` as its parent. -/
theorem junction (L : LocalInv c H g) (hg : H.parent g = g) {first prev : β}
    (hf : Certified c H first) (hp : Certified c H prev)
    (hcmp : Extends H first prev ∨ Extends H prev first)
    (hlt : H.round prev < H.round first)
    (hatt : H.round first = H.round prev + 1 ∨ H.round (H.parent first) ≤ H.round prev) :
    H.parent first = prev := by
  obtain ⟨hlt2, hpp⟩ := certified_parent L hf
  rcases hcmp with ⟨k, hk⟩ | ⟨k, hk⟩
  · cases k with
    | zero => obtain rfl : first = prev := hk; exact absurd hlt (Nat.lt_irrefl _)
    | succ k =>
      have := (anc_round L hg k _ _ hpp hk (hp.ne_genesis L)).1
      obtain rfl : k = 0 := by omega
      exact hk
  · have := (anc_round L hg k _ _ (.inr hp) hk (hf.ne_genesis L)).1
    omega

theorem junction_first (L : LocalInv c H g) {first : β} (hf : Certified c H first)
    (hatt : H.round first = 1 ∨ H.round (H.parent first) = 0) : H.parent first = g := by
  obtain ⟨hlt, hpp⟩ := certified_parent L hf
  refine hpp.resolve_right fun hc => ?_
  have := certified_round_pos c H g L hc
  omega

end

end HS.Abs
