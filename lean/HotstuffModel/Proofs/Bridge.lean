import HotstuffModel.Proofs.Global
/-!
From the global model to the abstract agreement theorem: the honest histories of a reachable
global state satisfy `Abs.LocalInv` (the invariants I1, I2, I3 and the normalisation
`genesis_round`).  I1 and I3 are what `Ords` says about two records of one history
(`voted_unique_per_round`, `timeout_dominates_vote`, Proofs/NodeInv2); the global state enters with
`legit_valid`.
-/
namespace HS

def dParent : Digest → Digest
  | .block _ _ _ p => p
  | _ => .zero

def dRound : Digest → Nat
  | .block _ r _ _ => r
  | _ => 0

@[simp] theorem dParent_block (b : Block) : dParent b.digest = b.qc.hash := rfl
@[simp] theorem dRound_block (b : Block) : dRound b.digest = b.round := rfl

/-- The abstract history of a global state, over block digests. -/
def absHist (X : World) (G : GState) : Abs.Hist Digest where
  parent := dParent
  round := dRound
  voted := fun h d => X.honest h ∧ ∃ b, Out.voted b ∈ (G h).hist ∧ b.digest = d
  timedOut := fun h t hq => X.honest h ∧ ∃ to, Out.timeout to ∈ (G h).hist ∧ to.round = t ∧ to.highQC.round = hq

def absCtx (X : World) : Abs.Ctx where
  nodes := X.c.keys
  stake := X.c.stake
  bad := X.bad
  q := X.c.quorum
  f := C17.f X.c.total
  nodes_nodup := X.wf
  bad_le := X.badBound
  quorum_gt := by
    rw [Committee.weight_keys X.c X.wf]
    have := X.n1
    unfold Committee.quorum Gen.qtConsensus C17.f
    omega

@[simp] theorem absHist_parent (X : World) (G : GState) (d : Digest) :
    (absHist X G).parent d = dParent d := rfl
@[simp] theorem absHist_round (X : World) (G : GState) (d : Digest) :
    (absHist X G).round d = dRound d := rfl

theorem Block.digest_ne_zero (b : Block) : b.digest ≠ .zero := nofun

theorem QC.isGenesis_iff (q : QC) : q.isGenesis = true ↔ q.hash = .zero ∧ q.round = 0 := by
  simp [QC.isGenesis, QC.same, QC.genesis]

theorem IsParent.round {p b : Block} (h : IsParent p b) : dRound b.qc.hash = p.round := by
  rcases h with ⟨hg, rfl⟩ | h
  · rw [(b.qc.isGenesis_iff.mp hg).1]; rfl
  · rw [← h, dRound_block]

section
variable (X : World) (G : GState)

/-- Unforgeability read at an honest signer: a legitimate token that verifies for `cnt` under the
key of an honest `k` is recorded in `k`'s own history. -/
theorem legit_valid {sig : Sig} {cnt : Content} {k : Nat} (hl : Legit X.bad G sig)
    (hv : sig.valid cnt k = true) (hk : X.bad k = false) : SelfSigned (G k).hist cnt := by
  obtain ⟨rfl, rfl⟩ := Sig.valid_iff.mp hv
  exact hl.resolve_left (Bool.eq_false_iff.mp hk)

theorem qc_certifies {q : QC} (hv : q.verify X.c = .ok ()) (ht : QCtok (Legit X.bad G) q) :
    Abs.Certified (absCtx X) (absHist X G) q.hash ∧ dRound q.hash = q.round := by
  obtain ⟨nodup, staked, quorum, sigs⟩ := (QC.verify_ok_iff X.c q).mp hv
  have hmem : ∀ k ∈ q.signers, k ∈ X.c.keys := fun k hk => stake_ne_zero_mem X.c k (staked k hk)
  have hsig : ∀ k ∈ q.signers, X.bad k = false →
      ∃ b, Out.voted b ∈ (G k).hist ∧ b.digest = q.hash ∧ b.round = q.round := by
    intro k hk hb
    obtain ⟨p, hp, rfl⟩ := List.mem_map.mp hk
    exact legit_valid X G (ht p hp) (sigs p hp) hb
  refine ⟨⟨q.signers, nodup, hmem, quorum, fun s hs hbs => ?_⟩, ?_⟩
  · obtain ⟨b, hb, hd, _⟩ := hsig s hs hbs
    exact ⟨⟨hmem s hs, hbs⟩, b, hb, hd⟩
  · -- honest nodes sign `(digest b, b.round)` only, and some signer is honest
    obtain ⟨x, hx, hbx⟩ := Abs.quorum_has_honest (absCtx X) q.signers nodup hmem quorum
    obtain ⟨b, _, hd, hr⟩ := hsig x hx hbx
    rw [← hd, dRound_block, hr]

theorem qcok_certifies {q : QC} (hq : QCok X.c q) (ht : QCtok (Legit X.bad G) q) :
    (q.hash = .zero ∨ Abs.Certified (absCtx X) (absHist X G) q.hash) ∧ dRound q.hash = q.round := by
  rcases hq with hg | hv
  · obtain ⟨h, r⟩ := q.isGenesis_iff.mp hg
    exact ⟨.inl h, by rw [h, r]; rfl⟩
  · exact (qc_certifies X G hv ht).imp_left .inr

theorem parent_certified {p b : Block} (hp : IsParent p b) (hne : p ≠ Block.genesis)
    (hq : QCok X.c b.qc) (ht : QCtok (Legit X.bad G) b.qc) :
    p.digest = b.qc.hash ∧ Abs.Certified (absCtx X) (absHist X G) p.digest := by
  have e : p.digest = b.qc.hash := hp.resolve_left fun h => hne h.2
  exact ⟨e, e ▸ (qcok_certifies X G hq ht).1.resolve_left (e ▸ p.digest_ne_zero)⟩

theorem tc_valid {t : TC} (hv : t.verify X.c = .ok ()) (ht : TCtok (Legit X.bad G) t) :
    Abs.ValidTC (absCtx X) (absHist X G) t.round t.highQcRounds := by
  obtain ⟨nodup, staked, quorum, sigs⟩ := (TC.verify_ok_iff X.c t).mp hv
  have hmem : ∀ k ∈ t.signers, k ∈ X.c.keys := fun k hk => stake_ne_zero_mem X.c k (staked k hk)
  have hfst : (t.votes.map (fun v => (v.1, v.2.2))).map Prod.fst = t.signers := by
    simp [TC.signers, Function.comp_def]
  refine ⟨t.votes.map (fun v => (v.1, v.2.2)), hfst ▸ nodup, hfst ▸ hmem, hfst ▸ quorum,
    by simp [TC.highQcRounds, Function.comp_def], ?_⟩
  intro e he hbe
  obtain ⟨p, hp, rfl⟩ := List.mem_map.mp he
  obtain ⟨to, hto, hr, hq⟩ := legit_valid X G (ht p hp) (sigs p hp) hbe
  exact ⟨⟨hmem p.1 (List.mem_map_of_mem hp), hbe⟩, to, hto, hr, hq⟩

theorem voted_qc (hR : Reach X G) {h : Nat} (hh : X.honest h) {b : Block}
    (hb : Out.voted b ∈ (G h).hist) :
    (b.qc.hash = .zero ∨ Abs.Certified (absCtx X) (absHist X G) b.qc.hash) ∧
      dRound b.qc.hash = b.qc.round := by
  obtain ⟨_, _, inv3, _, _⟩ := reach_local X G hR h hh
  exact qcok_certifies X G (inv3.voted b hb).qc ((reach_legit X G hR h hh).voted b hb).1

theorem reach_localInv (hR : Reach X G) : Abs.LocalInv (absCtx X) (absHist X G) Digest.zero := by
  refine ⟨rfl, ?_, ?_, ?_⟩
  · rintro h _ _ _ ⟨hh, b, hb, rfl⟩ ⟨_, b', hb', rfl⟩ hr
    obtain ⟨_, inv2, _, _, _⟩ := reach_local X G hR h hh
    rw [voted_unique_per_round inv2.ords hb hb' hr]
  · rintro h _ _ ⟨hh, b, hb, rfl⟩
    obtain ⟨inv1, _, inv3, _, _⟩ := reach_local X G hR h hh
    obtain ⟨hpar, hround⟩ := voted_qc X G hR hh hb
    obtain ⟨_, hlt, hsafe, _⟩ := inv1.voted b hb
    simp only [absHist_parent, absHist_round, dParent_block, dRound_block, hround]
    refine ⟨hlt, hpar, hsafe.imp_right ?_⟩
    rintro ⟨tc, htc, hr, hall⟩
    refine ⟨tc.highQcRounds, ?_, hall⟩
    rw [show b.round - 1 = tc.round by omega]
    exact tc_valid X G ((inv3.voted b hb).tc tc htc) (((reach_legit X G hR h hh).voted b hb).2 tc htc)
  · rintro h _ t hq _ ⟨hh, b, hb, rfl⟩ ⟨_, to, hto, rfl, rfl⟩ hle
    rw [show (absHist X G).round ((absHist X G).parent b.digest) = b.qc.round from
      (voted_qc X G hR hh hb).2]
    obtain ⟨_, inv2, _, _, _⟩ := reach_local X G hR h hh
    exact timeout_dominates_vote inv2.ords hb hto hle

end

/-- Only for block digests: `zero` is an ancestor of every digest and a member of no chain. -/
theorem extends_iff_mem_chain (X : World) (G : GState) {e : Digest} {x : Block} :
    Abs.Extends (absHist X G) e x.digest ↔ x.digest ∈ e.chain := by
  induction e with
  | block a r p par ih => exact (Abs.extends_iff _).trans ((or_congr eq_comm ih).trans List.mem_cons.symm)
  | _ =>
    refine iff_of_false ?_ List.not_mem_nil
    rintro ⟨k, hk⟩
    cases k with
    | zero => cases hk
    | succ k =>
      -- the parent of anything but a block digest is `zero`, which is its own parent
      exact x.digest_ne_zero ((Abs.anc_genesis (H := absHist X G) (g := .zero) rfl k).symm.trans hk).symm

end HS
