import HotstuffModel.Proofs.NodeInv2
import HotstuffModel.Proofs.WireVotes
/-!
# C03 — Voting safety: one vote per round, none after timeout, only safe extensions

`Out.voted b` is recorded by the model exactly where `Core::make_vote` requests the signature of a
vote for `b` (wire votes and the self-vote as next leader alike); `Out.timeout t` exactly where
`local_timeout_round` signs a timeout.  The history `hist` is newest first: in
`h1 ++ x :: h2` everything in `h2` happened before `x`.

All theorems hold for EVERY finite event list from the initial state — any messages (valid or
not, any signatures, any rounds), in any order, interleaved with timer expiries, loop-backs,
sync/payload resumptions — and every committee.
-/
namespace HS.C03
open HS Node

/-- Vote rounds strictly increase over time. -/
theorem vote_rounds_strictly_increase (c : Committee) (name : Nat) (es : List Event)
    (h1 h2 : List Out) (b : Block)
    (hh : (run c (init c name) es).hist = h1 ++ .voted b :: h2) :
    ∀ b', Out.voted b' ∈ h2 → b'.round < b.round := by
  obtain ⟨earlierVotes, _⟩ : (Out.voted b).after h2 := (hh ▸ (reachable_inv12 c name es).2.ords).split
  exact earlierVotes

/-- At most one vote per round: two votes signed at different times are for different rounds. -/
theorem at_most_one_vote_per_round (c : Committee) (name : Nat) (es : List Event)
    (h1 h2 : List Out) (b b' : Block)
    (hh : (run c (init c name) es).hist = h1 ++ .voted b :: h2) (hb' : Out.voted b' ∈ h2) :
    b'.round ≠ b.round := by
  have := vote_rounds_strictly_increase c name es h1 h2 b hh b' hb'
  omega

/-- Never a vote in a round for which a timeout was already issued (nor in a lower one). -/
theorem no_vote_after_timeout (c : Committee) (name : Nat) (es : List Event)
    (h1 h2 : List Out) (b : Block) (t : Timeout)
    (hh : (run c (init c name) es).hist = h1 ++ .voted b :: h2) (ht : Out.timeout t ∈ h2) :
    t.round < b.round := by
  obtain ⟨_, earlierTimeouts⟩ : (Out.voted b).after h2 := (hh ▸ (reachable_inv12 c name es).2.ords).split
  exact earlierTimeouts t ht

/-- Every block voted for carries a QC of the immediately preceding round, or a TC of the
preceding round none of whose reported high-QC rounds exceeds the round of the block's own QC;
in both cases the block's QC is of a lower round than the block. -/
theorem voted_block_is_safe_extension (c : Committee) (name : Nat) (es : List Event) (b : Block)
    (hb : Out.voted b ∈ (run c (init c name) es).hist) :
    (b.qc.round + 1 = b.round ∨
      ∃ tc, b.tc = some tc ∧ tc.round + 1 = b.round ∧ ∀ x ∈ tc.highQcRounds, x ≤ b.qc.round) ∧
    b.qc.round < b.round := by
  obtain ⟨_, qcBelow, safeExt, _⟩ := (reachable_inv12 c name es).1.voted b hb
  exact ⟨safeExt, qcBelow⟩

/-- The bookkeeping behind it: the node's `last_voted_round` dominates every vote and timeout
it has signed, and never exceeds its current round. -/
theorem last_voted_round_dominates (c : Committee) (name : Nat) (es : List Event) :
    let s := run c (init c name) es
    (∀ b, Out.voted b ∈ s.hist → b.round ≤ s.lastVoted) ∧
    (∀ t, Out.timeout t ∈ s.hist → t.round ≤ s.lastVoted) ∧ s.lastVoted ≤ s.round := by
  intro s
  have := (reachable_inv12 c name es).1
  exact ⟨fun b hb => (this.voted b hb).1, fun t ht => (this.touts t ht).1, this.lv_le⟩

/-! ## On the wire

The theorems above are about the record `voted b` left where `make_vote` signs.  These tie the
vote MESSAGES (`Out.vote to v`: sent to the next leader; `Out.selfVote v`: handled locally when
the node leads the next round) to those records. -/

/-- The vote carried by a vote output. -/
def voteOfOut : Out → Option Vote
  | .vote _ v => some v
  | .selfVote v => some v
  | _ => none

/-- Every vote message is the vote — signed by the node, for the block's digest and round — for a
block recorded by `make_vote` immediately before, and goes to the leader of the next round. -/
theorem wire_vote_is_for_voted_block (c : Committee) (name : Nat) (es : List Event)
    (h1 h2 : List Out) (o : Out) (v : Vote) (ho : voteOfOut o = some v)
    (hh : (run c (init c name) es).hist = h1 ++ o :: h2) :
    ∃ b r, h2 = .voted b :: r ∧ v = voteFor name b ∧
      (∀ to, o = .vote to v → to = c.leader (b.round + 1) ∧ to ≠ name) ∧
      (o = .selfVote v → name = c.leader (b.round + 1)) := by
  have hname : (run c (init c name) es).name = name :=
    (ext_run c (init c name) es).name.trans (init_name c name)
  have hw := reachable_wire c name es
  rw [hname, hh] at hw
  cases o <;> cases ho
  · -- o = .vote to v
    obtain ⟨b, r, onTop, isVoteFor, toLeader, notSelf⟩ := hw.split
    exact ⟨b, r, onTop, isVoteFor, fun _ h => by cases h; exact ⟨toLeader, notSelf⟩, fun h => (nomatch h)⟩
  · -- o = .selfVote v
    obtain ⟨b, r, onTop, isVoteFor, isLeader⟩ := hw.split
    exact ⟨b, r, onTop, isVoteFor, fun _ h => (nomatch h), fun _ => isLeader⟩

/-- Vote messages carry strictly increasing rounds: at most one vote message per round, ever. -/
theorem wire_vote_rounds_strictly_increase (c : Committee) (name : Nat) (es : List Event)
    (h1 h2 : List Out) (o o' : Out) (v v' : Vote)
    (ho : voteOfOut o = some v) (ho' : voteOfOut o' = some v')
    (hh : (run c (init c name) es).hist = h1 ++ o :: h2) (hmem : o' ∈ h2) :
    v'.round < v.round := by
  obtain ⟨b, r, rfl, rfl, -, -⟩ := wire_vote_is_for_voted_block c name es h1 h2 o v ho hh
  -- `o'` lies below the `voted b` that `o` sits on, and sits on a `voted b'` itself
  have hr : o' ∈ r := (List.mem_cons.mp hmem).resolve_left (by rintro rfl; cases ho')
  obtain ⟨r1, r2, rfl⟩ := List.append_of_mem hr
  obtain ⟨b', r3, rfl, rfl, -, -⟩ := wire_vote_is_for_voted_block c name es
    (h1 ++ o :: .voted b :: r1) r2 o' v' ho' (by rw [hh]; simp)
  exact vote_rounds_strictly_increase c name es (h1 ++ [o]) (r1 ++ o' :: .voted b' :: r3) b
    (by rw [hh]; simp) b' (by simp)

/-- Non-vacuity: a 4-node committee, node 3 receives the round-1 leader's block (justified by
the genesis QC), votes for it; a later equivocating proposal of the same round is not voted. -/
example :
    let c : Committee := ⟨[(1, 1), (2, 1), (3, 1), (4, 1)]⟩
    let blk (p : List Nat) : Block :=
      { qc := QC.genesis, tc := none, author := 2, round := 1, payload := p,
        sig := ⟨2, .block (.block 2 1 p .zero)⟩ }
    let s := run c (init c 3) [.batch 7, .msg (.propose (blk [])), .msg (.propose (blk [7]))]
    (s.hist.filter (fun o => match o with | .voted _ => true | _ => false)).length = 1 ∧
    s.lastVoted = 1 := by
  decide

end HS.C03
