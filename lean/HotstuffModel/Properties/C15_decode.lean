import HotstuffModel.Proofs.BincodeWF
/-!
# C15 (decoding part) — decoding of keys, digests and messages is total

Panics are values (`Res.panic`, DESIGN §3.6).  `Base64.decode` and all bincode decoders of
`Model/Bincode.lean` are total Lean functions on *every* byte string; the only `panic` outcome in the
model is the slice `bytes[..32]` / `bytes[..64]` in `PublicKey/SecretKey::decode_base64`.

* With the checked slice (`checkedSlice = true`; this is what /repo has now, `HS.Wire.currentCheckedSlice`)
  no decoder ever panics — theorems below.
* With the unchecked slice `bytes[..n]` (`checkedSlice = false`, the code before finding F3 was repaired) the
  theorem is **false**: `decode_base64` panics exactly when the text is valid base64 of fewer than 32 (64)
  bytes (`current_key_decoder_panics_iff`), and this is reachable through every message type that
  carries a key (concrete frames below, replayed on the real code by the engine `codec`).

Not covered here: the handlers behind the decoders (C15's other half), non-source-visible panics
(allocation failure: excluded by serde's `cautious` size hint, modelled as element-by-element reading).
-/
namespace HS.C15Decode
open HS.Wire

/-- base64 decoding is total by construction (an `Option`), and whatever it accepts is ASCII, so the
UTF-8 check bincode performs on the string first never changes the outcome. -/
theorem base64_accepts_only_ascii (s r : List UInt8) (h : Base64.decode s = some r) :
    ∀ ch ∈ s, ch.toNat < 128 := Base64.decode_ascii s r h

/-- Checked slice: key decoding returns a key or an error for every text. -/
theorem key_decoding_total_checked (s : List UInt8) :
    decodePublicKey true s ≠ .panic ∧ decodeSecretKey true s ≠ .panic :=
  -- the `…_sat` lemmas say: a decoder panics only if `c = false`; here `c` is `true` (`nofun : ¬ true = false`)
  ⟨(decodeKey_sat true 32 s).ne_panic nofun, (decodeKey_sat true 64 s).ne_panic nofun⟩

/-- Checked slice: decoding a consensus frame / a mempool frame / a stored block returns a value or an
error for **every** byte string (any length, any content). -/
theorem message_decoding_total_checked (bs : List UInt8) :
    (decCMsg true).run bs ≠ .panic ∧ (decMMsg true).run bs ≠ .panic ∧ (decBlock true).run bs ≠ .panic :=
  ⟨(decCMsg_sat true bs).ne_panic nofun, (decMMsg_sat true bs).ne_panic nofun,
    (decBlock_sat true bs).ne_panic nofun⟩

/-- The code as it is NOW: `currentCheckedSlice` is read from crypto/src/lib.rs by the translator on
every run (Generated/Switches.lean).  Decoding of keys, of consensus and mempool frames and of stored
blocks is total: a value or an error for every byte string.  (With the unchecked `bytes[..n]` slice
this theorem no longer type-checks and the check reports the failing input.) -/
theorem decoding_total_current_code (s bs : List UInt8) :
    decodePublicKey currentCheckedSlice s ≠ .panic ∧ decodeSecretKey currentCheckedSlice s ≠ .panic ∧
    (decCMsg currentCheckedSlice).run bs ≠ .panic ∧ (decMMsg currentCheckedSlice).run bs ≠ .panic ∧
    (decBlock currentCheckedSlice).run bs ≠ .panic := by
  have h : currentCheckedSlice = true := rfl
  rw [h]
  exact ⟨(key_decoding_total_checked s).1, (key_decoding_total_checked s).2,
    message_decoding_total_checked bs⟩

/-- … and so does the whole sync path (stored bytes → `Helper` → frame → receiver). -/
theorem sync_path_total_checked (bs : List UInt8) : syncPath true bs ≠ .panic := by
  unfold syncPath
  split
  · -- the stored bytes decode to a block; the frame made of it …
    split
    · nofun  -- … decodes
    · nofun  -- … is rejected
    · -- … panics the frame decoder: it never does
      rename_i framePanics
      exact absurd framePanics (message_decoding_total_checked _).1
  · nofun  -- the stored bytes are rejected
  · -- the stored bytes panic the block decoder: it never does
    rename_i blockPanics
    exact absurd blockPanics (message_decoding_total_checked bs).2.2

/-- The unchecked slice (the code before the repair of F3): `decode_base64` panics **exactly** on valid
base64 text of too few bytes. -/
theorem current_key_decoder_panics_iff (n : Nat) (s : List UInt8) :
    decodeKey false n s = .panic ↔ ∃ b, Base64.decode s = some b ∧ b.length < n := by
  unfold decodeKey
  cases h : Base64.decode s with
  | none => simp
  | some b =>
    by_cases hl : b.length < n
    · simp [hl]
    · simp [hl]

/-- The repair changes nothing else: whenever the unchecked slice does not panic, both versions agree. -/
theorem checked_slice_only_removes_panic (n : Nat) (s : List UInt8) (h : decodeKey false n s ≠ .panic) :
    decodeKey true n s = decodeKey false n s := by
  unfold decodeKey at *
  cases hd : Base64.decode s with
  | none => rfl
  | some b =>
    rw [hd] at h
    by_cases hl : b.length < n
    · simp [hl] at h
    · simp [hl]

/-- Counter-examples for the unchecked slice (F3), evaluated through the model: the texts `""` and `"AAAA"`
panic the public-key decoder; a 48-byte `SyncRequest` frame whose origin is the string `"AAAA"` panics
the consensus frame decoder, and a `BatchRequest` with no digests and origin `""` panics the mempool
frame decoder — while the checked slice returns an error on the same inputs. -/
example : decodePublicKey false [] = .panic ∧ decodePublicKey false [65, 65, 65, 65] = .panic ∧
    decodeSecretKey false (encodeKey (List.replicate 32 0)) = .panic ∧
    decodePublicKey true [65, 65, 65, 65] = .err := by
  -- `+kernel`: a closed term, evaluated by the kernel alone (the elaborator's own evaluation is slow)
  decide +kernel

example :
    let frame : List UInt8 := le32 4 ++ List.replicate 32 0 ++ le64 4 ++ [65, 65, 65, 65]
    (decCMsg false).run frame = .panic ∧ (decCMsg true).run frame = .err := by decide +kernel

example :
    let frame : List UInt8 := le32 1 ++ le64 0 ++ le64 0
    (decMMsg false).run frame = .panic ∧ (decMMsg true).run frame = .err := by decide +kernel

/-- Non-vacuity of totality: inputs of every outcome class exist for the checked decoder — a valid
frame (ok), a truncated one (error), a bad variant index (error), a huge length prefix (error). -/
example :
    let k : List UInt8 := List.replicate 32 7
    let ok : List UInt8 := encCMsg (.syncRequest k k)
    (∃ m r, (decCMsg true).run ok = .ok (m, r)) ∧ (decCMsg true).run (ok.take 50) = .err ∧
      (decCMsg true).run (le32 5 ++ ok.drop 4) = .err ∧
      (decMMsg true).run (le32 0 ++ le64 (2 ^ 64 - 1)) = .err := by
  refine ⟨⟨.syncRequest (List.replicate 32 7) (List.replicate 32 7), [], by decide +kernel⟩,
    by decide +kernel, by decide +kernel, by decide +kernel⟩

end HS.C15Decode
