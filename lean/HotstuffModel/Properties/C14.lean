import HotstuffModel.Proofs.ReliableSender
import HotstuffModel.Proofs.ReliableSenderOrder
/-!
# C14 — Reliable sender: at-least-once, in-order delivery, correctly paired ACKs

Model: `HS.RS` (Model/ReliableSender.lean), one `Connection` task of `network::ReliableSender`.
Every theorem quantifies over every reachable state, i.e. over every finite sequence of events
(sends, cancellations, connect results, timer, `select!` choices, write results, responses, EOF) from
`init` — or over every state at all where no invariant is needed.

What is assumed, not proved (see the engine `sender` for the tie to the Rust code and DESIGN §6):
the transport is a FIFO byte stream per connection and the peer answers the k-th frame it reads on a
connection with the k-th frame it writes on it; with that, `ack_pairing` + `resolve_only_with_own_reply`
say that a handle completes only with the peer's reply to that very message.
"Eventually delivered" needs fairness (a connection eventually stays up long enough); the schedule
under which delivery happens is explicit in `delivered_if_connection_stays_up`.
-/
namespace HS.C14
open HS.RS

/-- (order) What the sender holds — `pending ++ writing ++ buffer ++ chan` —, restricted to the
messages whose handle is alive, is exactly the hand-over-ordered list of the live messages that have
not been acknowledged yet. -/
theorem unacked_in_handover_order (s : State) (h : Reachable s) :
    s.held.filter (fun m => decide (m ∉ s.closed)) =
      s.handed.filter (fun m => decide (m ∉ s.closed) && decide (m ∉ acked s.trace)) := by
  have H := h.invH
  have disjoint := (List.nodup_append.1 H.nodup).2.2  -- of `acked s.trace` and `s.held`
  -- `held` filtered is a sublist of the duplicate-free `handed`, hence `handed` filtered by membership in it
  -- (`sublist_eq_filter`); then the two predicates on `handed` are compared pointwise
  rw [sublist_eq_filter (List.filter_sublist.trans H.held_sub) H.nodupH]
  refine List.filter_congr fun x hx => ?_
  by_cases hc : x ∈ s.closed
  · simp [hc]
  · by_cases ha : x ∈ acked s.trace
    · have : x ∉ s.held := fun hh => disjoint x ha x hh rfl
      simp [hc, ha, this]
    · simp [hc, ha, H.keep x hx hc ha]

theorem frame_is_write_in_progress (s : State) (e : Event) (c id : Nat)
    (hf : Out.frame c id ∈ outs s e) : s.writing = some id ∧ c = s.connNo ∧ s.mode = .connected := by
  rcases (step_spec s e).frame with h0 | ⟨m, hm, hw, ho⟩
  · cases h0 ▸ mem_written.2 ⟨c, hf⟩  -- the step writes nothing, yet `frame c id` is among its outputs
  · rw [ho] at hf
    simp only [List.mem_singleton, Out.frame.injEq] at hf
    exact ⟨hf.2 ▸ hw, hf.1, hm⟩

/-! ### Order of first transmissions

`written s.trace` is the sequence of message ids of the frames written so far on any connection,
OLDEST FIRST, with repetitions (retransmissions); `s.handed` is the hand-over order.  Three forms are
proved: at the moment of a transmission (step form), on the trace of every reachable state (TRACE FORM,
with `skipped_never_transmitted_later`), and as a `List.Sublist`; the invariant behind the last two is
`HS.RS.OrderInv` (Proofs/ReliableSenderOrder.lean). -/

/-- (order, step form) When a message `b` is transmitted for the first time, every message handed
over before `b` has already been transmitted or has been cancelled: no live message is overtaken. -/
theorem first_transmissions_in_handover_order_step (s : State) (h : Reachable s) (e : Event) (c b : Nat)
    (hf : Out.frame c b ∈ outs s e) (_hfirst : b ∉ written s.trace)
    (pre post : List Nat) (hsplit : s.handed = pre ++ b :: post) (a : Nat) (ha : a ∈ pre) :
    a ∈ written s.trace ∨ a ∈ s.closed :=
  handed_before_writing h (frame_is_write_in_progress s e c b hf).1 hsplit ha

/-- (order, TRACE FORM) In every reachable state, let `W = written s.trace` (oldest first).  For every
split `W = pre' ++ b :: post'` with `b ∉ pre'` — the FIRST transmission of `b` — and every message `a`
handed over before `b` (`s.handed = pre ++ b :: post`, `a ∈ pre`): either `a ∈ pre'` (`a` was first
transmitted before `b`), or `a` is not transmitted at all in `W` and `a` is cancelled.  First
transmissions happen in hand-over order, except that cancelled messages may be skipped. -/
theorem first_transmissions_in_handover_order (s : State) (h : Reachable s)
    (pre : List Nat) (b : Nat) (post : List Nat) (hsplit : s.handed = pre ++ b :: post)
    (a : Nat) (ha : a ∈ pre)
    (pre' post' : List Nat) (hW : written s.trace = pre' ++ b :: post') (hfirst : b ∉ pre') :
    a ∈ pre' ∨ (a ∉ written s.trace ∧ a ∈ s.closed) :=
  -- of the second alternative of `order_trace` (never written, cancelled, no write of it in progress)
  -- the first two facts are kept
  (order_trace h hsplit ha).imp (· pre' post' hW hfirst) fun hD => ⟨hD.1, hD.2.1⟩

/-- (order, sublist form) The messages in the order of their first transmission (`written` with later
duplicates erased; `List.eraseDups` keeps first occurrences) form a sublist of the hand-over order. -/
theorem first_transmissions_sublist_of_handover_order (s : State) (h : Reachable s) :
    (written s.trace).eraseDups.Sublist s.handed :=
  (List.sublist_append_left _ _).trans h.orderInv

/-- (pairing) On every connection, the messages popped by the responses read so far are exactly the
first messages written on THAT connection, in the same order: the k-th response read on a
connection is paired with the k-th frame written on it, and with nothing else. -/
theorem ack_pairing (s : State) (h : Reachable s) (c : Nat) :
    (acksOn c s.trace).map Prod.fst <+: framesOn c s.trace :=
  h.invP.pref c

theorem ack_pairing_index (s : State) (h : Reachable s) (c k id bytes : Nat)
    (hk : (acksOn c s.trace)[k]? = some (id, bytes)) : (framesOn c s.trace)[k]? = some id := by
  obtain ⟨t, ht⟩ := ack_pairing s h c
  have hlt := (List.getElem?_eq_some_iff.1 hk).1
  rw [← ht, List.getElem?_append_left (by simpa using hlt), List.getElem?_map, hk]
  rfl

/-- (pairing) A handle completes only with the bytes of the response that was read, on some
connection, in the position of a frame carrying that very message. -/
theorem resolve_only_with_own_reply (s : State) (h : Reachable s) (id bytes : Nat)
    (hr : (id, bytes) ∈ resolved s.trace) :
    ∃ c k : Nat, (acksOn c s.trace)[k]? = some (id, bytes) ∧ (framesOn c s.trace)[k]? = some id := by
  obtain ⟨c, hc⟩ := h.invP.res (id, bytes) hr
  obtain ⟨k, hk⟩ := List.getElem?_of_mem hc
  exact ⟨c, k, hk, ack_pairing_index s h c k id bytes hk⟩

/-- (pairing) A handle completes at most once. -/
theorem resolve_at_most_once (s : State) (h : Reachable s) :
    ((resolved s.trace).map Prod.fst).Nodup :=
  (List.nodup_append.1 h.invH.nodup).1.sublist (allAcks_map_fst _ ▸ h.invP.resSub.map _)

/-- (at-least-once, safety half) A message that was handed over and is neither acknowledged nor
cancelled is never lost: the sender still holds it. -/
theorem never_lost (s : State) (h : Reachable s) (m : Nat) (hm : m ∈ s.handed)
    (hlive : m ∉ s.closed) (hun : m ∉ acked s.trace) : m ∈ s.held :=
  h.invH.keep m hm hlive hun

/-- (no drop) No step removes a message whose handle is alive from the sender, except by completing
its handle.  (Holds in every state, reachable or not.) -/
theorem no_drop (s : State) (e : Event) (m : Nat) (hm : m ∈ s.held) (hlive : m ∉ (step s e).closed) :
    m ∈ (step s e).held ∨ ∃ bytes, Out.resolve m bytes ∈ outs s e := by
  cases (step_spec s e).shape with
  | shrink rest _ hc hd hp hres =>
    have hl : m ∉ s.closed := fun h => hlive (hc m h)
    obtain ⟨_, liveStays⟩ := hp
    -- `m` is in `rest`, where it stays, being live, or among the acknowledged, where it is resolved, being live
    rw [hd, List.mem_append] at hm
    exact hm.symm.imp (liveStays m · hl) (hres m · hl)
  | grow id _ _ _ _ hd => exact .inl (hd ▸ List.mem_append_left _ hm)

/-- (cancellation) `is_closed` is checked when a write starts: a write never starts for a message
whose handle is already dropped. -/
theorem write_starts_only_if_not_cancelled (s : State) (e : Event) (m : Nat)
    (h1 : (step s e).writing = some m) (h0 : s.writing ≠ some m) : m ∉ s.closed := by
  have h := step_spec s e
  -- `cases` on a rule needs variables for the new state and the outputs
  generalize step s e = s' at h h1
  generalize outs s e = o at h
  cases h with
  | writeBegin _ _ hd => cases h1; exact drained_head_live hd
  | writeOk | writeFail => cases h1
  | _ => exact absurd h1 h0

theorem closed_mono (s : State) (e : Event) (m : Nat) (h : m ∈ s.closed) : m ∈ (step s e).closed := by
  cases (step_spec s e).shape with
  | shrink _ _ hc => exact hc m h
  | grow _ _ _ hc => exact hc ▸ h

/-- (cancellation) Once the handle of `id` is dropped — unless the write of `id` is in progress at
that very moment — no frame carrying `id` is ever written again, on any connection, whatever
happens afterwards. -/
theorem cancelled_never_written_again (s : State) (id : Nat) (hc : id ∈ s.closed)
    (hw : s.writing ≠ some id) (es : List Event) (c : Nat) : Out.frame c id ∉ runO s es := by
  induction es generalizing s with
  | nil => simp [runO]
  | cons e es ih =>
    simp only [runO, List.mem_append, not_or]
    exact ⟨fun hf => hw (frame_is_write_in_progress s e c id hf).1,
      ih (step s e) (closed_mono s e id hc) fun h1 => write_starts_only_if_not_cancelled s e id h1 hw hc⟩

/-- (order) A skipped message is never transmitted later: if `b` has been transmitted and `a`, handed
over before `b`, has not, then `a` is not transmitted in any continuation of the run. -/
theorem skipped_never_transmitted_later (s : State) (h : Reachable s)
    (pre : List Nat) (b : Nat) (post : List Nat) (hsplit : s.handed = pre ++ b :: post)
    (a : Nat) (ha : a ∈ pre) (hb : b ∈ written s.trace) (hna : a ∉ written s.trace)
    (es : List Event) : a ∉ written (run s es).trace := by
  rcases order_trace h hsplit ha with hFB | ⟨-, hcl, hw⟩
  · obtain ⟨p, q, hW, hp⟩ := List.eq_append_cons_of_mem hb
    exact absurd (hW ▸ List.mem_append_left _ (hFB p q hW hp)) hna
  · rw [run_trace, written_append, List.mem_append, not_or]
    exact ⟨hna, fun hf => (mem_written.1 hf).elim fun c => cancelled_never_written_again s a hcl hw es c⟩

/-- (cancellation) Dropping a handle does not touch the sender's queues: a cancelled message that is
already in `pending` stays there (its response slot is still consumed in order — `ack_pairing` does
not depend on cancellation) until the connection fails; one in the buffer stays until the drain loop
or the `retain` reaches it. -/
theorem cancel_keeps_queues (s : State) (id : Nat) :
    let s' := step s (.cancel id)
    s'.pending = s.pending ∧ s'.writing = s.writing ∧ s'.buffer = s.buffer ∧ s'.chan = s.chan ∧
      s'.mode = s.mode ∧ outs s (.cancel id) = [] := by
  simp only [step, outs, stepCore]
  split <;> simp

/-- (cancellation) A handle that was dropped is never completed. -/
theorem resolve_only_if_not_cancelled (s : State) (e : Event) (id bytes : Nat)
    (h : Out.resolve id bytes ∈ outs s e) : id ∉ s.closed := by
  have hs := step_spec s e
  generalize step s e = s' at hs
  generalize outs s e = o at hs h
  cases hs with
  | ackLive _ _ _ _ live => simp at h; exact h.1 ▸ live
  | _ => simp at h

/-- (retransmission) On every new connection, every message the task holds in its buffer whose
handle is alive is written again, in order, before the connection idles — provided the writes
succeed: after `connectOk` and enough rounds of the drain loop the buffer is empty, `pending` is
exactly the list of live messages in hand-over order, and exactly those frames were written on the
new connection.  (Messages still in the channel follow by `recvMsg`, `writeBegin`, `writeOk` each.) -/
theorem reconnect_retransmits_all (s : State) (h : Reachable s) (hm : s.mode = .connecting)
    (n : Nat) (hn : s.buffer.length ≤ n) :
    let s' := run s (.connectOk :: flush n)
    s'.mode = .connected ∧ s'.connNo = s.connNo + 1 ∧ s'.buffer = [] ∧ s'.writing = none ∧
    s'.pending = s.buffer.filter (fun x => !s.isClosed x) ∧
    runO s (.connectOk :: flush n) =
      (s.buffer.filter (fun x => !s.isClosed x)).map (Out.frame (s.connNo + 1)) := by
  have hi := h.invP.idle (by simp [hm])
  have hrun := run_reconnect hm hi.2 hn
  refine ⟨?_, ?_, ?_, ?_, ?_, runO_of_trace (hrun ▸ rfl)⟩ <;> simp [hrun, hi]

/-- (at-least-once, enabling lemma for liveness) On an idle established connection, if the peer
answers every outstanding frame (`bs` = the bytes of its replies, in order), every outstanding
message is paired with its own reply, every live handle completes with it, and nothing is left
pending. -/
theorem acks_resolve_all_pending (s : State) (hm : s.mode = .connected) (hw : s.writing = none)
    (hb : s.buffer = []) (bs : List Nat) (hl : bs.length = s.pending.length) :
    (run s (bs.map .ackRead)).pending = [] ∧
      runO s (bs.map .ackRead) = ackOuts s.connNo s.closed s.pending bs := by
  have hrun := run_acks s hm hw hb bs hl
  exact ⟨hrun ▸ rfl, runO_of_trace (hrun ▸ rfl)⟩

/-- (at-least-once, liveness under fairness) THE FAIRNESS ASSUMPTION IS EXPLICIT IN THE SCHEDULE: if
from a reachable state in which the task is about to connect and the channel is empty, the
connection is established, stays up while the drain loop writes everything (all writes succeed),
and the peer answers every frame (`bs`), then every message that was handed over, is not cancelled
and was not acknowledged before is delivered on the new connection and its handle completes with the
peer's reply to it.  Without "a connection eventually stays up this long" nothing is ever delivered
(e.g. `connectFail`, `timerFired` forever), so the unconditional "eventually" is not a theorem. -/
theorem delivered_if_connection_stays_up (s : State) (h : Reachable s) (hm : s.mode = .connecting)
    (hch : s.chan = []) (bs : List Nat)
    (hbs : bs.length = (s.buffer.filter (fun x => !s.isClosed x)).length)
    (m : Nat) (hh : m ∈ s.handed) (hlive : m ∉ s.closed) (hun : m ∉ acked s.trace) :
    let es := (.connectOk :: flush s.buffer.length) ++ bs.map .ackRead
    Out.frame (s.connNo + 1) m ∈ runO s es ∧ ∃ b, b ∈ bs ∧ Out.resolve m b ∈ runO s es := by
  have hi := h.invP.idle (by simp [hm])
  -- an idle task with an empty channel holds its messages in the buffer
  have hmf : m ∈ s.buffer.filter (fun x => !s.isClosed x) :=
    List.mem_filter.2 ⟨by simpa [State.held, hi.1, hi.2, hch] using never_lost s h m hh hlive hun,
      by simp [State.isClosed, hlive]⟩
  intro es
  have hrun := run_reconnect hm hi.2 (Nat.le_refl s.buffer.length)
  rw [hi.1, List.nil_append] at hrun
  have htr : (run s es).trace = s.trace ++ ((s.buffer.filter (fun x => !s.isClosed x)).map (Out.frame (s.connNo + 1)) ++
      ackOuts (s.connNo + 1) s.closed (s.buffer.filter (fun x => !s.isClosed x)) bs) := by
    show (run s (_ ++ _)).trace = _
    rw [run_append, hrun, run_acks _ (hm := rfl) (hw := by exact hi.2) (hb := rfl) bs hbs, List.append_assoc]
  rw [runO_of_trace htr]
  obtain ⟨b, hb, hr⟩ := exists_resolve_ackOuts (s.connNo + 1) s.closed hmf (Nat.le_of_eq hbs.symm) hlive
  exact ⟨List.mem_append_left _ (List.mem_map.2 ⟨m, hmf, rfl⟩), b, hb, List.mem_append_right _ hr⟩

/-- (back-off) The retry delay stays within [200 ms, 60 s]. -/
theorem backoff_bounds (s : State) (h : Reachable s) : 200 ≤ s.delay ∧ s.delay ≤ 60000 := by
  refine h.induct (P := fun s => 200 ≤ s.delay ∧ s.delay ≤ 60000) (by simp [init]) fun s e _ ih => ?_
  have hs := step_spec s e
  generalize step s e = s' at hs
  generalize outs s e = o at hs
  cases hs with
  | connectOk => exact (by decide : 200 ≤ 200 ∧ 200 ≤ 60000)
  | timerFired => exact ⟨Nat.le_min.2 ⟨by omega, by decide⟩, Nat.min_le_right _ _⟩
  | _ => exact ih

/-- (back-off) A refused connect is followed by a wait whose length doubles (capped at 60 s) when it
elapses; an established connection resets it to 200 ms; a failed connection is followed by an
immediate reconnect (no wait). -/
theorem backoff_doubles_and_resets (s : State) :
    (s.mode = .waiting → (step s .timerFired).delay = min (2 * s.delay) 60000 ∧
        (step s .timerFired).mode = .connecting) ∧
    (s.mode = .connecting → (step s .connectOk).delay = 200 ∧ (step s .connectFail).mode = .waiting ∧
        (step s .connectFail).delay = s.delay) ∧
    (teardown s).mode = .connecting := by
  refine ⟨?_, ?_, rfl⟩
  · intro h; simp [step, stepCore, h]
  · intro h; simp [step, stepCore, h]

/-! ### Non-vacuity: concrete runs -/

/-- Two messages, the connection breaks after the first ACK, the second message is retransmitted on
the next connection and acknowledged there. -/
example :
    (run init [.send 1, .send 2, .connectOk, .recvMsg, .writeBegin, .writeOk, .recvMsg, .writeBegin, .writeOk,
      .ackRead 70, .readClosed, .connectOk, .writeBegin, .writeOk, .ackRead 71]).trace =
      [.frame 1 1, .frame 1 2, .ackd 1 1 70, .resolve 1 70, .frame 2 2, .ackd 2 2 71, .resolve 2 71] := by
  decide

/-- A message cancelled while in `pending` stays there: its response is consumed in its own position
(no handle completes), the next response goes to the next message; after a failure it is not
written again while the live one is. -/
example :
    (run init [.send 1, .send 2, .send 3, .connectOk, .recvMsg, .writeBegin, .writeOk, .recvMsg, .writeBegin,
      .writeOk, .recvMsg, .writeBegin, .writeOk, .cancel 1, .cancel 2, .ackRead 70, .readClosed, .connectFail,
      .timerFired, .connectOk, .writeBegin, .writeOk, .ackRead 71]).trace =
      [.frame 1 1, .frame 1 2, .frame 1 3, .ackd 1 1 70, .frame 2 3, .ackd 2 3 71, .resolve 3 71] := by
  decide

/-- The exact boundary of the cancellation clause: `is_closed` is checked when the write STARTS; a
handle dropped while its write is blocked on a full socket does not stop that write. -/
example :
    (run init [.send 1, .connectOk, .recvMsg, .writeBegin, .cancel 1, .writeOk]).trace = [.frame 1 1] ∧
    (run init [.send 1, .connectOk, .recvMsg, .cancel 1, .writeBegin, .writeOk]).trace = [] := by
  decide

/-- An unsolicited response (nothing pending) tears the connection down; a message sent meanwhile is
written on the next connection. -/
example :
    (run init [.send 1, .connectOk, .recvMsg, .writeBegin, .writeOk, .ackRead 5, .ackRead 6, .send 2]).mode = .connecting ∧
    (run init [.send 1, .connectOk, .recvMsg, .writeBegin, .writeOk, .ackRead 5, .ackRead 6, .send 2,
      .connectOk, .recvMsg, .writeBegin, .writeOk]).trace = [.frame 1 1, .ackd 1 1 5, .resolve 1 5, .frame 2 2] := by
  decide

/-- The hypotheses of `delivered_if_connection_stays_up` / `reconnect_retransmits_all` are met by a
reachable state with two live un-acknowledged messages and a cancelled one in the buffer. -/
example :
    let s := run init [.send 1, .send 2, .send 3, .connectOk, .recvMsg, .writeBegin, .writeOk, .recvMsg,
      .writeBegin, .writeOk, .recvMsg, .writeBegin, .writeOk, .cancel 2, .readClosed]
    Reachable s ∧ s.mode = .connecting ∧ s.chan = [] ∧ s.buffer = [1, 2, 3] ∧ s.closed = [2] ∧
      acked s.trace = [] ∧ s.buffer.filter (fun x => !s.isClosed x) = [1, 3] := by
  refine ⟨⟨_, rfl⟩, ?_⟩
  decide

/-- Trace form of the order property, non-vacuously: `1, 2, 3, 4` are handed over; `1` is written
and acknowledged; `2` is cancelled while it waits in the channel and is SKIPPED; `3` is written, the
connection breaks, `3` is retransmitted and then `4` is written.  For the first transmissions of `3`
and of `4` the hypotheses of `first_transmissions_in_handover_order` are met with `a = 2`
(second disjunct: never written, cancelled) and with `a = 1` resp. `a = 3` (first disjunct). -/
example :
    let s := run init [.send 1, .send 2, .send 3, .send 4, .connectOk, .recvMsg, .writeBegin, .writeOk,
      .cancel 2, .recvMsg, .ackRead 70, .recvMsg, .writeBegin, .writeOk, .readClosed, .connectOk,
      .writeBegin, .writeOk, .recvMsg, .writeBegin, .writeOk]
    Reachable s ∧ s.handed = [1, 2] ++ 3 :: [4] ∧ s.handed = [1, 2, 3] ++ 4 :: [] ∧
      written s.trace = [1] ++ 3 :: [3, 4] ∧ 3 ∉ [1] ∧ written s.trace = [1, 3, 3] ++ 4 :: [] ∧ 4 ∉ [1, 3, 3] ∧
      1 ∈ [1] ∧ 2 ∉ [1] ∧ 2 ∉ written s.trace ∧ 2 ∈ s.closed ∧ 3 ∈ [1, 3, 3] ∧
      (written s.trace).eraseDups = [1, 3, 4] := by
  refine ⟨⟨_, rfl⟩, ?_⟩
  decide

/-- Back-off: after six refused connects the delay is 200·2⁶ ms, after nine it is capped at 60 s. -/
example :
    (run init ((List.replicate 6 [Event.connectFail, Event.timerFired]).flatten)).delay = 12800 ∧
    (run init ((List.replicate 9 [Event.connectFail, Event.timerFired]).flatten)).delay = 60000 ∧
    (run init ((List.replicate 9 [Event.connectFail, Event.timerFired]).flatten ++ [.connectOk])).delay = 200 := by
  decide

end HS.C14
