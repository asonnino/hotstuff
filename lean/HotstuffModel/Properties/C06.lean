import HotstuffModel.Proofs.Reachable
import HotstuffModel.Proofs.CommitLive
import HotstuffModel.Proofs.LeaderWindow
import HotstuffModel.Proofs.PacemakerStuck
import HotstuffModel.Model.Timer
import HotstuffModel.Proofs.ProposerWait
import HotstuffModel.Properties.C17
/-!
# C06 — Liveness with up to f crashed nodes (PARTIAL: enabling lemmas)

The temporal claim ("from some point on … every live node's committed round keeps growing") needs
a fairness/real-time model of timers and TCP back-off that this development does not have.  What is
proved here, for every state / every input, are the progress steps the liveness argument is made of;
the claim itself is explored on the real code by the `netsim` engine (4–7 real nodes, every choice
of ≤ f crashed nodes and crash instants, random pre-stabilisation delays and cuts, then a stable
network: each live node must commit within every window of (4(f+1)+6) timeouts).
-/
namespace HS.C06
open HS Node

/-- (L1) The local timer always produces a signed timeout for the current round carrying the
current high QC — whatever the state — and bumps `last_voted_round` to the round. -/
theorem timer_always_yields_timeout (c : Committee) (s : Node) :
    ∃ t : Timeout, t.round = s.round ∧ t.highQC = s.highQC ∧ t.author = s.name ∧
      Out.timeout t ∈ (s.localTimeout c).hist ∧ s.round ≤ (s.localTimeout c).lastVoted := by
  -- `localTimeout` bumps `lastVoted`, records the node's own timeout, then runs `handle_timeout` on it;
  -- that last call only extends the state (`.inr`: the timeout is the node's own, just recorded)
  have ext : Ext (({ s with lastVoted := max s.lastVoted s.round } : Node).emit (.timeout s.ownTimeout))
      (s.localTimeout c) :=
    ext_moves (moves_handleTimeout (cur := none) c .timer _ _ (.inr ⟨rfl, .head _, rfl⟩))
  exact ⟨s.ownTimeout, rfl, rfl, rfl, ext.hist_mem _ (.head _), Nat.le_trans (Nat.le_max_right ..) ext.lastVoted⟩

/-- (L2) When a verified timeout completes a quorum (the aggregator returns a TC), the node
broadcasts the TC and is in a round above the timeout's round. -/
theorem quorum_of_timeouts_advances (c : Committee) (s : Node) (t : Timeout) (a : Aggregator) (tc : TC)
    (hr : ¬ t.round < s.round) (hv : t.verify c = .ok ())
    (hadd : (s.processQC t.highQC).agg.addTimeout c t = .ok (a, some tc)) :
    Out.tc tc ∈ (s.handleTimeout c t).hist ∧ t.round < (s.handleTimeout c t).round := by
  rw [handleTimeout_certifies c s hr hv hadd]
  have ext := ext_proposeIfLeader c
    ((({ s.processQC t.highQC with agg := a } : Node).advanceRound tc.round (.tc tc)).emit (.tc tc)) (some tc)
  refine ⟨ext.hist_mem _ (.head _), Nat.lt_of_lt_of_le ?_ ext.round⟩
  rw [emit_round, ← (addTimeout_some hadd).1]
  exact advanceRound_gt _ _ _

/-- (L3) A node that learns a valid TC for a round `≥` its own and leads the next round asks its
proposer for exactly one block of that round, carrying its high QC and the TC. -/
theorem leader_proposes_after_tc (c : Committee) (s : Node) (tc : TC)
    (hv : tc.verify c = .ok ()) (hr : ¬ tc.round < s.round) (hl : s.name = c.leader (tc.round + 1)) :
    (s.handleTC c tc).round = tc.round + 1 ∧
    (s.handleTC c tc).propQ = s.propQ ++ [.make (tc.round + 1) s.highQC (some tc)] := by
  rw [handleTC_accepts c s hv hr]
  -- what `advanceRound` does to the four fields that `proposeIfLeader` and `generateProposal` read
  generalize hs' : s.advanceRound tc.round (.tc tc) = s'
  have round : s'.round = tc.round + 1 := by rw [← hs', advanceRound_round]; omega
  have name : s'.name = s.name := hs' ▸ (ext_advanceRound s _ _).name
  have highQC : s'.highQC = s.highQC := hs' ▸ advanceRound_highQC s _ _
  have propQ : s'.propQ = s.propQ :=
    hs' ▸ advanceRound_cases (P := fun x => x.propQ = s.propQ) (fun _ => rfl) fun _ => rfl
  -- the node leads the round it has entered: it asks its proposer
  have leads : (s'.name == c.leader s'.round) = true := by rw [name, round, hl]; exact beq_self_eq_true _
  rw [proposeIfLeader, if_pos leads]
  exact ⟨round, by rw [← propQ, ← highQC, ← round]; rfl⟩

/-- (L4) Voting is enabled: a node in round `r` that has not voted or timed out in `r` votes for a
round-`r` block that satisfies safety rule 2 (extends the previous round's QC, or carries a TC of the
previous round whose reported QCs are not higher than the block's) once the block reaches the
voting stage. -/
theorem vote_enabled (c : Committee) (s : Node) (b : Block)
    (hp : s.panic = none) (hr : b.round = s.round) (hlv : s.lastVoted < b.round)
    (h2 : safetyRule2 b = some true) :
    Out.voted b ∈ (voteStage c s true b).hist := by
  have hne : (b.round != s.round) = false := by simp [hr]
  have rule1 : (decide (b.round > s.lastVoted) && true) = true := by simpa using hlv
  simp only [voteStage, hp, Bool.not_true, Option.isSome_none, Bool.or_self, Bool.false_eq_true, if_false,
    hne, makeVote, h2, rule1, if_true]
  exact (ext_sendVote c _ _).hist_mem _ (.head _)

/-- (L6) View synchronisation: whoever receives a valid TC of round `r`, or a proposal whose QC is
of round `r`, is in a round above `r` afterwards. -/
theorem tc_synchronises_view (c : Committee) (s : Node) (tc : TC) (hv : tc.verify c = .ok ()) :
    tc.round < (s.handleTC c tc).round := by
  by_cases hr : Gen.tcStale tc.round s.round
  · simp only [handleTC, hv, hr, if_true]
  · rw [handleTC_accepts c s hv hr]
    exact Nat.lt_of_lt_of_le (advanceRound_gt s _ _) (ext_proposeIfLeader c _ _).round

theorem qc_synchronises_view (s : Node) (qc : QC) : qc.round < (s.processQC qc).round :=
  processQC_gt s qc

/-- (L7) The commit rule fires.  In every reachable state of a node, a proposal `b` from its round's
leader that passes `verify`, whose batches the node holds, and whose parent `b1` and grandparent
`b0` the node has stored with `b0.round + 1 = b1.round`, leaves `last_committed_round ≥ b0.round`:
three consecutive certified proposals commit the first (the "if" direction of C05's rule). -/
theorem consecutive_chain_commits (c : Committee) (name : Nat) (hd : Deploy c name) (es : List Event)
    (b b1 b0 : Block)
    (hl : b.author = c.leader b.round) (hv : b.verify c = .ok ())
    (hpay : ∀ d ∈ b.payload, d ∈ (run c (init c name) es).avail)
    (hp1 : (getParent c (run c (init c name) es) b).2 = .found b1)
    (hp0 : (getParent c (run c (init c name) es) b1).2 = .found b0)
    (h2 : b0.round + 1 = b1.round) :
    b0.round ≤ ((run c (init c name) es).handleProposal c b).lastCommitted := by
  obtain ⟨s₁, e, _, _, _, hc⟩ :=
    handleProposal_good c _ b b1 b0 (reachable_inv4 c name hd rfl es) hl hv hpay hp1 hp0
  rw [e]
  exact Nat.le_trans (hc h2) (ext_voteStage c s₁ true b).lastCommitted

/-- (L9) The good case of voting, end to end through `handle_proposal`: in every reachable state, a
node that has not moved past round `b.round` and has neither voted nor timed out in it, on receiving
from that round's leader a verified block `b` that directly extends its QC, whose batches it holds
and whose parent and grandparent it has stored, signs a vote for `b` (which, by
`C03.wire_vote_is_for_voted_block`, goes to the leader of the next round). -/
theorem honest_proposal_is_voted (c : Committee) (name : Nat) (hd : Deploy c name) (es : List Event)
    (b b1 b0 : Block)
    (hl : b.author = c.leader b.round) (hv : b.verify c = .ok ())
    (hpay : ∀ d ∈ b.payload, d ∈ (run c (init c name) es).avail)
    (hp1 : (getParent c (run c (init c name) es) b).2 = .found b1)
    (hp0 : (getParent c (run c (init c name) es) b1).2 = .found b0)
    (htc : b.tc = none) (hdir : b.qc.round + 1 = b.round)
    (hround : (run c (init c name) es).round ≤ b.round)
    (hlv : (run c (init c name) es).lastVoted < b.round) :
    Out.voted b ∈ ((run c (init c name) es).handleProposal c b).hist := by
  obtain ⟨s₁, e, hr, lvSame, hp, _⟩ :=
    handleProposal_good c _ b b1 b0 (reachable_inv4 c name hd rfl es) hl hv hpay hp1 hp0
  rw [e]
  refine vote_enabled c s₁ b hp ?_ (lvSame ▸ hlv) (by simp [safetyRule2, htc, Gen.viaQC, hdir])
  -- `b.round = s₁.round`: the certificate of `b` takes the node to `max round (b.qc.round + 1)`, which is
  -- `b.round`: `b` extends its QC directly (`hdir`) and the node was not beyond `b.round` (`hround`)
  rw [hr, htc]
  show b.round = ((run c (init c name) es).processQC b.qc).round  -- `advanceTC none` changes nothing
  rw [processQC_round]
  omega

/-- (L8) Faulty leaders delay progress only boundedly: whatever set of `m < n` authorities is
crashed or Byzantine, it leads at most `m` rounds in a row — among any `m + 1` consecutive rounds at
least one is led by an authority outside the set (rotation over the sorted keys is a bijection on
every window of `n` rounds). -/
theorem faulty_leaders_lead_at_most_m_rounds_in_a_row (c : Committee) (hw : c.WF) (h : c.keys ≠ [])
    (faulty : List Nat) (hm : faulty.length < c.keys.length) (r0 : Nat) :
    ∃ i, i ≤ faulty.length ∧ c.leader (r0 + i) ∉ faulty :=
  exists_outside c.leader c.keys.length (leaders_distinct c hw h) faulty hm r0

/-- (L10) With `n ≥ 3m + 1` authorities of which any `m` are crashed or Byzantine, every window of
`n` consecutive rounds contains THREE consecutive rounds led by authorities outside the faulty set —
exactly what a 2-chain commit needs (L9: the first two blocks get voted, L7: the third one commits
the first).  So after the network has stabilised a commit is at most one leader rotation away. -/
theorem three_consecutive_nonfaulty_leaders (c : Committee) (hw : c.WF) (h : c.keys ≠ [])
    (faulty : List Nat) (hm : 3 * faulty.length < c.keys.length) (r0 : Nat) :
    ∃ i, i < c.keys.length ∧ c.leader (r0 + i) ∉ faulty ∧ c.leader (r0 + i + 1) ∉ faulty ∧
      c.leader (r0 + i + 2) ∉ faulty :=
  exists_three_outside c.leader c.keys.length (leaders_distinct c hw h) (leader_periodic c) faulty hm r0

/-- Non-vacuity of L8/L10: seven authorities, 2 and 5 faulty: rounds led by 6, 7, 1 are a clean triple. -/
example :
    let c : Committee := ⟨[(1, 1), (2, 1), (3, 1), (4, 1), (5, 1), (6, 1), (7, 1)]⟩
    c.leader 5 = 6 ∧ c.leader 6 = 7 ∧ c.leader 7 = 1 ∧ 3 * [2, 5].length < c.keys.length := by
  decide

/-- Non-vacuity / good case on one node: blocks of three consecutive rounds commit the first. -/
example :
    let c : Committee := ⟨[(1, 1), (2, 1), (3, 1), (4, 1)]⟩
    let mk (a r : Nat) (q : QC) : Block :=
      { qc := q, tc := none, author := a, round := r, payload := [], sig := ⟨a, .block (.block a r [] q.hash)⟩ }
    let cert (b : Block) : QC :=
      { hash := b.digest, round := b.round, votes := [(1, ⟨1, .vote b.digest b.round⟩), (2, ⟨2, .vote b.digest b.round⟩), (3, ⟨3, .vote b.digest b.round⟩)] }
    let b1 := mk 2 1 QC.genesis
    let b2 := mk 3 2 (cert b1)
    let b3 := mk 4 3 (cert b2)
    (run c (init c 1) [.msg (.propose b1), .msg (.propose b2), .msg (.propose b3)]).lastCommitted = 1 := by
  decide

/-! ### The round timer (`consensus/src/timer.rs`, `HS.Timer`)

"Each faulty leader delays progress only by a bounded number of round timeouts": the length of one
round timeout is fixed by the timer — `Core` resets it when it enters a round and after every local
timeout, and a reset puts the deadline at `now + timeout_delay` (`Gen.timerDeadline`, regenerated from
the source; the engine `timer` runs the real `Timer` under the virtual clock against this model). -/

theorem timer_resets_duration (t : Timer.T) (rs : List Nat) : (Timer.resets t rs).duration = t.duration := by
  induction rs generalizing t with
  | nil => rfl
  | cons r rs ih => simpa [Timer.resets, Timer.reset] using ih (Timer.reset t r)

theorem timer_resets_last (t : Timer.T) (rs : List Nat) (last : Nat) :
    (Timer.resets t (rs ++ [last])).deadline = last + t.duration := by
  induction rs generalizing t with
  | nil => simp [Timer.resets, Timer.reset]
  | cons r rs ih =>
    simp only [List.cons_append, Timer.resets]
    rw [ih (Timer.reset t r)]
    simp [Timer.reset]

/-- (L11) After any history of resets the timer is ready exactly from `timeout_delay` after the LAST
reset on: never earlier (a round is not cut short), and from then on (a silent leader costs one
`timeout_delay`, not more) — earlier deadlines do not matter. -/
theorem timer_fires_exactly_duration_after_last_reset (t : Timer.T) (rs : List Nat) (last now : Nat) :
    Timer.fired (Timer.resets t (rs ++ [last])) now = true ↔ last + t.duration ≤ now := by
  simp [Timer.fired, timer_resets_last]

/-- A fresh timer is ready exactly from `timeout_delay` after its creation on. -/
theorem timer_new_fires_after_duration (d t0 now : Nat) :
    Timer.fired (Timer.new d t0) now = true ↔ t0 + d ≤ now := by
  unfold Timer.fired Timer.new
  exact decide_eq_true_iff

/-- Non-vacuity of L11: 1000 ms, created at 0, reset at 400 and at 900: silent at 1899, ready at 1900. -/
example :
    Timer.fired (Timer.resets (Timer.new 1000 0) [400, 900]) 1899 = false ∧
    Timer.fired (Timer.resets (Timer.new 1000 0) [400, 900]) 1900 = true := by
  decide

/-! ### The proposer's wait for acknowledgements (`Proposer::make_block`, `HS.PW`)

After broadcasting a block the proposer takes no further message until the peers that acknowledged it
hold, with the node itself, a quorum of the stake (`Gen.proposerQuorum`, regenerated from the source).
A crashed peer never acknowledges, so progress needs this wait to end on the honest peers alone. -/

/-- (L12) The wait never depends on a faulty peer: with Byzantine/crashed stake at most `f`, once the
waiters of all non-faulty peers have completed — in whatever order, interleaved with whatever else —
the loop has left through its `break`; and it leaves at the FIRST completion at which the stake
gathered reaches the quorum, not later. -/
theorem proposer_wait_ends_with_honest_acks (c : Committee) (hc : c.WF) (bad : Nat → Bool)
    (hn1 : 1 ≤ c.total) (hn2 : c.total < 2 ^ 31) (hbad : c.weight (c.keys.filter bad) ≤ C17.f c.total)
    (own : Nat) (names : List Nat) (hne : names ≠ [])
    (hall : ∀ k ∈ c.keys, bad k = false → k = own ∨ k ∈ names) :
    (PW.wait c.quorum (c.stake own) (names.map c.stake)).2 = true ∧
    (∀ j, 0 < j → j < (PW.wait c.quorum (c.stake own) (names.map c.stake)).1 →
      ¬ c.quorum ≤ c.stake own + ((names.map c.stake).take j).sum) := by
  have hq := C17.honest_form_quorum c hc bad hn1 hn2 hbad
  have hnd : (c.keys.filter (fun x => !bad x)).Nodup := List.Nodup.sublist List.filter_sublist hc
  have hsub : ∀ x ∈ c.keys.filter (fun x => !bad x), x ∈ own :: names := fun x hx =>
    have := List.mem_filter.mp hx
    List.mem_cons.2 (hall x this.1 (by simpa using this.2))
  have hle := Q.weight_le_of_subset c.stake _ _ hnd hsub
  have hbreak : (PW.wait c.quorum (c.stake own) (names.map c.stake)).2 = true := by
    rw [PW.wait_breaks_iff]
    refine ⟨by simpa using hne, ?_⟩
    -- the honest members weigh a quorum (`hq`) and all sit in `own :: names` (`hle`); `Committee.weight`,
    -- `Q.weight` and the sum of the mapped stakes unfold to the same sum
    exact Nat.le_trans hq hle
  exact ⟨hbreak, (PW.wait_stops_at_first_crossing _ _ _ hbreak).2⟩

/-- Non-vacuity of L12: four equal stakes, peer 4 crashed; the ACKs of 2 and 3 end node 1's wait, at the
second completion. -/
example :
    let c : Committee := ⟨[(1, 1), (2, 1), (3, 1), (4, 1)]⟩
    c.WF ∧ c.weight (c.keys.filter (fun k => k == 4)) ≤ C17.f c.total ∧
    PW.wait c.quorum (c.stake 1) ([2, 3].map c.stake) = (2, true) := by
  decide

/-! ### Why the premise "messages are not lost" is needed

A TC is broadcast once (best effort) and timeouts carry only the sender's high QC, not the TC that let
it enter its round.  The theorem below shows for the node model what the network simulation met on the
real code with lossy cuts (DESIGN 0.7): if the copies of TC(r) are lost after some nodes (`Hi`) used it,
and neither `Hi` nor the nodes left in round `r` (`Lo`) hold a quorum, then timers and timeouts alone
never move anybody — the nodes of `Hi` drop the timeouts of round `r` unread, the nodes of `Lo` never
gather a quorum for `r` or `r + 1`.  So C06 cannot be strengthened to lossy networks for this code. -/

/-- (N1) However many of its own timer expiries and of the other nodes' timeouts follow (round `r`
from `Lo`, round `r + 1` from `Hi`, all with high QCs older than `r`), a node of `Lo` stays in round
`r`; and a node that is ahead drops every timeout of an earlier round without reading it. -/
theorem lost_tc_leaves_nodes_stuck (c : Committee) (r : Nat) (Lo Hi : List Nat)
    (hLo : NoQuorum c Lo) (hHi : NoQuorum c Hi) :
    (∀ (s : Node) (es : List Event), Behind c r Lo Hi s → (∀ e ∈ es, StuckInput r Lo Hi e) →
      (run c s es).round = r ∧ Behind c r Lo Hi (run c s es)) ∧
    (∀ (s : Node) (t : Timeout), t.round < s.round → step c s (.msg (.timeout t)) = s) :=
  ⟨fun s es hb he => have h := run_behind c r Lo Hi s es hLo hHi hb he; ⟨h.round, h⟩,
   fun s t h => by
    show (if s.panic.isSome then s else s.handleTimeout c t) = s
    split
    · rfl
    · -- `handleTimeout` begins with `if t.round < s.round then s`
      exact if_pos h⟩

/-- Non-vacuity of N1: four equal stakes (quorum 3), node 4 crashed, node 1 went on to round 8 with the
lost TC(7), nodes 2 and 3 are left in round 7 with a high QC of round 5: the hypotheses hold, and a
concrete exchange (own timers, timeouts of 3 for round 7 and of 1 for round 8) leaves node 2 in 7. -/
example :
    let c : Committee := ⟨[(1, 1), (2, 1), (3, 1), (4, 1)]⟩
    let q5 : QC := { hash := .raw 0, round := 5, votes := [] }
    let s : Node := { name := 2, round := 7, highQC := q5 }
    let t7 : Timeout := { highQC := q5, round := 7, author := 3, sig := ⟨3, .timeout 7 5⟩ }
    let t8 : Timeout := { highQC := q5, round := 8, author := 1, sig := ⟨1, .timeout 8 5⟩ }
    NoQuorum c [2, 3] ∧ NoQuorum c [1] ∧ Behind c 7 [2, 3] [1] s ∧
    (∀ e ∈ [Event.timer, .msg (.timeout t7), .msg (.timeout t8), .timer, .msg (.timeout t8)], StuckInput 7 [2, 3] [1] e) ∧
    (run c s [.timer, .msg (.timeout t7), .msg (.timeout t8), .timer, .msg (.timeout t8)]).round = 7 := by
  intro c q5 s t7 t8
  have nq : ∀ S : List Nat, c.weight S < c.quorum → NoQuorum c S := by
    intro S hS l hnd hsub
    have := Q.weight_le_of_subset c.stake l S hnd hsub
    rw [Committee.weight_eq] at hS ⊢
    omega
  have behind : Behind c 7 [2, 3] [1] s :=
    { round := rfl, high := by decide, self := by decide, ok := aggOK_empty c,
      -- node 2 has no tally yet
      lo := fun m hm => by simp [s] at hm, hi := fun m hm => by simp [s] at hm }
  refine ⟨nq _ (by decide), nq _ (by decide), behind, ?_, by decide⟩
  intro e he
  simp only [List.mem_cons, List.mem_nil_iff, or_false] at he
  rcases he with rfl | rfl | rfl | rfl | rfl <;> simp [StuckInput, t7, t8, q5]

end HS.C06
