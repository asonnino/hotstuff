import HotstuffModel.Proofs.Base64
/-!
# C18 — Signatures and key encodings: the *encoder* part

Proved here, about the byte-level model of `base64::{encode,decode}` (crate base64 0.13, STANDARD),
`PublicKey/SecretKey::{encode_base64,decode_base64}` (`crypto/src/lib.rs`) and the JSON string layer:
keys survive encoding to text and back unchanged, also through a JSON string.

**Not proved (and not provable in this framework):** anything about ed25519 — `sign`,
`verify_strict`, `verify_batch` are exercised only differentially by the harness engine `codec`
(sign→verify, every single-bit flip of digest/key/signature rejected, batches with one corrupted member
at every position).  The model is tied to the real crates by the same engine (encode/decode on random,
exhaustive-small and mutated text), not by proof.
-/
namespace HS.C18
open HS.Wire

theorem base64_roundtrip (bs : List UInt8) : Base64.decode (Base64.encode bs) = some bs :=
  Base64.decode_encode bs

theorem base64_encode_injective (a b : List UInt8) (h : Base64.encode a = Base64.encode b) : a = b := by
  have ha := Base64.decode_encode a
  rw [h, Base64.decode_encode b] at ha
  exact (Option.some.inj ha).symm

/-- Every 32-byte public key survives `encode_base64` → `decode_base64` unchanged (with the unchecked
slice, `c = false`, and with the checked one, `c = true`). -/
theorem public_key_roundtrip (c : Bool) (k : List UInt8) (h : k.length = 32) :
    decodePublicKey c (encodeKey k) = .ok k := decodeKey_encodeKey c 32 k h

/-- Every 64-byte secret key survives `encode_base64` → `decode_base64` unchanged. -/
theorem secret_key_roundtrip (c : Bool) (k : List UInt8) (h : k.length = 64) :
    decodeSecretKey c (encodeKey k) = .ok k := decodeKey_encodeKey c 64 k h

theorem key_text_length (k : List UInt8) :
    (k.length = 32 → (encodeKey k).length = 44) ∧ (k.length = 64 → (encodeKey k).length = 88) := by
  unfold encodeKey
  constructor <;> (intro h; rw [Base64.encode_length, h])

/-- The text of any key (of any byte string) contains no character that JSON escapes (`"`, `\`,
control characters) and only 7-bit ASCII. -/
theorem key_text_needs_no_json_escape (k : List UInt8) :
    ∀ ch ∈ encodeKey k, Json.needsEscape ch = false ∧ ch.toNat < 128 :=
  fun ch h => Base64.alphabet_json_safe ch (Base64.encode_alphabet k ch h)

/-- So the JSON string layer is the identity on key text: what `serde_json` writes for the string is
`"` + the text + `"`, and reading it back returns the text. -/
theorem json_string_layer_identity (k rest : List UInt8) :
    Json.writeStr (encodeKey k) = Json.quote :: (encodeKey k ++ [Json.quote]) ∧
    Json.readStr (Json.writeStr (encodeKey k) ++ rest) = some (encodeKey k, rest) := by
  have hs : ∀ ch ∈ encodeKey k, Json.needsEscape ch = false :=
    fun ch h => (key_text_needs_no_json_escape k ch h).1
  constructor
  · unfold Json.writeStr; rw [Json.escape_id _ hs]
  · exact Json.readStr_writeStr _ rest hs

/-- Public key → base64 → JSON string → read back → `decode_base64` is the identity (key files,
committee files). -/
theorem public_key_json_roundtrip (c : Bool) (k rest : List UInt8) (h : k.length = 32) :
    ∃ s, Json.readStr (Json.writeStr (encodeKey k) ++ rest) = some (s, rest) ∧
      decodePublicKey c s = .ok k :=
  ⟨encodeKey k, (json_string_layer_identity k rest).2, public_key_roundtrip c k h⟩

theorem secret_key_json_roundtrip (c : Bool) (k rest : List UInt8) (h : k.length = 64) :
    ∃ s, Json.readStr (Json.writeStr (encodeKey k) ++ rest) = some (s, rest) ∧
      decodeSecretKey c s = .ok k :=
  ⟨encodeKey k, (json_string_layer_identity k rest).2, secret_key_roundtrip c k h⟩

/-- Non-vacuity, evaluated through the model: a concrete 32-byte key, its 44-character text, the JSON
literal and the way back. -/
example :
    let k : List UInt8 := (List.range 32).map (fun i => UInt8.ofNat (8 * i + 3))
    k.length = 32 ∧ (encodeKey k).length = 44 ∧ decodePublicKey false (encodeKey k) = .ok k ∧
      Json.readStr (Json.writeStr (encodeKey k) ++ [44]) = some (encodeKey k, [44]) := by
  -- `+kernel`: a closed term, evaluated by the kernel alone (the elaborator's own evaluation is slow)
  decide +kernel

/-- "hello" ↦ "aGVsbG8=" and back; non-canonical text is rejected (non-zero trailing bits). -/
example : Base64.encode [104, 101, 108, 108, 111] = [97, 71, 86, 115, 98, 71, 56, 61] ∧
    Base64.decode [97, 71, 86, 115, 98, 71, 56, 61] = some [104, 101, 108, 108, 111] ∧
    Base64.decode [97, 71, 86, 115, 98, 71, 57, 61] = none := by
  decide +kernel

end HS.C18
