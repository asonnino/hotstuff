import HotstuffModel.Proofs.Reachable
import HotstuffModel.Proofs.CommitSeq
/-!
# C05 — A block is committed only on a certified consecutive-round 2-chain

`Out.twoChain b0 b1 blk` is recorded by the model exactly where `process_block` calls
`commit(b0)`; `Out.commit x` is a delivery on the commit channel.
For EVERY event list (any blocks and certificates in any order, gaps at either position of the
2-chain, certified-but-never-extended blocks, votes, timeouts, TCs) and every committee.
-/
namespace HS.C05
open HS Node

/-- Every delivered block `x` is `b0` or an ancestor of `b0` (on the hash chain `b0`'s digest
commits to) for some 2-chain `b0 ← b1 ← blk` that the node processed, where `b1`'s round is exactly
`b0`'s round + 1, `blk` passed `handle_proposal`'s checks (or is the node's own block), and `blk`'s QC —
which certifies `b1`, the child of `b0` — is the genesis QC or was accepted by `QC::verify`. -/
theorem commit_only_on_certified_two_chain (c : Committee) (name : Nat) (hd : Deploy c name)
    (es : List Event) (x : Block) (hx : Out.commit x ∈ (run c (init c name) es).hist) :
    ∃ b0 b1 blk, Out.twoChain b0 b1 blk ∈ (run c (init c name) es).hist ∧
      AncOrSelf x b0 ∧ b0.round + 1 = b1.round ∧ IsParent b0 b1 ∧ IsParent b1 blk ∧
      (blk.qc.isGenesis = true ∨ blk.qc.verify c = .ok ()) ∧
      blk.author = c.leader blk.round ∧ blk.sig.valid (.block blk.digest) blk.author = true := by
  have i5 := reachable_inv5 c name hd rfl es
  have i3 := reachable_inv3 c name hd es
  obtain ⟨_, b0, b1, blk, hrec, hanc⟩ := i5.commits x hx
  obtain ⟨hr, hp1, hp0⟩ := i5.chains b0 b1 blk hrec
  have hck := (i3.chains b0 b1 blk hrec).1
  exact ⟨b0, b1, blk, hrec, hanc, hr, hp0, hp1, hck.qc, hck.leader, hck.signed⟩

/-- A non-genesis QC inside such a `blk` really is quorum-backed for `b1`'s digest. -/
theorem two_chain_qc_is_quorum_backed (c : Committee) (name : Nat) (hd : Deploy c name)
    (es : List Event) (b0 b1 blk : Block)
    (h : Out.twoChain b0 b1 blk ∈ (run c (init c name) es).hist) (hng : blk.qc.isGenesis = false) :
    blk.qc.hash = b1.digest ∧ blk.qc.signers.Nodup ∧ c.quorum ≤ c.weight blk.qc.signers ∧
    ∀ v ∈ blk.qc.votes, v.2.valid (.vote b1.digest blk.qc.round) v.1 = true := by
  have hck := ((reachable_inv3 c name hd es).chains b0 b1 blk h).1
  obtain ⟨_, hp1, _⟩ := (reachable_inv5 c name hd rfl es).chains b0 b1 blk h
  have hpar : b1.digest = blk.qc.hash := hp1.resolve_left (by simp [hng])
  obtain ⟨h1, _, h3, h4⟩ := (QC.verify_ok_iff c blk.qc).mp (hck.qc.resolve_left (by simp [hng]))
  exact ⟨hpar.symm, h1, h3, fun v hv => hpar ▸ h4 v hv⟩

/-- Nothing else commits: a step that is not the processing of a block — a vote (however many), a
timeout, a TC, a timer expiry, a sync request, a batch, a digest, a proposer step, a wake-up —
delivers nothing and leaves `last_committed_round` alone, whatever it carries. -/
theorem only_block_processing_commits (c : Committee) (s : Node) (e : Event)
    (he : match e with
      | .msg (.propose _) | .loopback => False
      | _ => True) :
    (step c s e).lastCommitted = s.lastCommitted ∧
    (step c s e).hist.filter Out.isCommitOut = s.hist.filter Out.isCommitOut := by
  -- a step that takes no block in is a sequence of moves without a delivery (`Steps.moves`), and
  -- moves leave watermark and commit channel alone (`cframe_moves`)
  obtain ⟨_, st⟩ := step_steps c s e
  have frame : CFrame s (step c s e) :=
    cframe_moves (st.moves (hp := fun _ h => by subst h; exact he) (hl := fun h => by subst h; exact he))
  exact ⟨frame.lc, by rw [filter_isCommitOut, filter_isCommitOut, frame.cm]⟩

/-- Non-vacuity: blocks of rounds 1, 2, 3 in a row commit round 1; with a round gap (1, 3, 4 — block 3
justified by a TC) the arrival of block 4 commits nothing new for round 1's child. -/
example :
    let c : Committee := ⟨[(1, 1), (2, 1), (3, 1), (4, 1)]⟩
    let mk (a r : Nat) (q : QC) : Block :=
      { qc := q, tc := none, author := a, round := r, payload := [], sig := ⟨a, .block (.block a r [] q.hash)⟩ }
    let cert (b : Block) : QC :=
      { hash := b.digest, round := b.round, votes := [(1, ⟨1, .vote b.digest b.round⟩), (2, ⟨2, .vote b.digest b.round⟩), (3, ⟨3, .vote b.digest b.round⟩)] }
    let b1 := mk 2 1 QC.genesis
    let b2 := mk 3 2 (cert b1)
    let b3 := mk 4 3 (cert b2)
    let s := run c (init c 1) [.msg (.propose b1), .msg (.propose b2), .msg (.propose b3)]
    s.lastCommitted = 1 ∧ s.hist.contains (.commit b1) = true := by
  decide

end HS.C05
