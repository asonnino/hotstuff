import HotstuffModel.Proofs.Reachable
import HotstuffModel.Properties.C02
import HotstuffModel.Proofs.Synchronizer
/-!
# C07 — A lagging node fetches missing blocks and converges (PARTIAL: protocol lemmas)

"Recovers once reconnected" is a liveness statement; proved here are the request / reply / park /
resume steps it is made of, for every state and input, and the SAFETY half of convergence for the
global model: whatever a lagging node has delivered at any moment is a prefix of what the others have
delivered (`never_diverges`) — it can only be behind, never on a different sequence.  That it
does catch up is explored on the real code by the `netsim` engine (a node isolated for a random
interval while the others commit, with and without view changes in the gap, optionally a slow first
sync target; afterwards its commit log must reach the others' and be prefix-equal).
-/
namespace HS.C07
open HS Node

/-- (S1) A peer answers a sync request from a committee member with exactly the block it stored
under the requested digest, and with nothing if it has none. -/
theorem helper_replies_with_stored_block (c : Committee) (s : Node) (d : Digest) (origin : Nat) (b : Block)
    (ho : origin ∈ c.keys) (hb : s.store.lookup d = some b) :
    s.helperStep c d origin = s.emit (.helperReply origin b) := by
  have : (!c.keys.contains origin) = false := by simpa using ho
  simp only [helperStep, this, Bool.false_eq_true, if_false, readBlock_of_lookup hb]

theorem helper_silent_when_unknown (c : Committee) (s : Node) (d : Digest) (origin : Nat)
    (hb : s.readBlock d = .missing) : s.helperStep c d origin = s := by
  unfold helperStep
  split
  · rfl
  · simp [hb]

/-- … and the stored block under `d` IS the block with digest `d` (every reachable state). -/
theorem stored_block_has_requested_digest (c : Committee) (name : Nat) (hd : Deploy c name)
    (es : List Event) (d : Digest) (b : Block)
    (hb : (run c (init c name) es).store.lookup d = some b) : b.digest = d :=
  (reachable_inv4 c name hd rfl es).keyed d b (mem_of_lookup hb)

/-- (S2) A block whose parent is missing is parked (not processed, not voted), and the parent is
requested from the block's author — once per missing parent. -/
theorem missing_parent_parks_and_requests (c : Committee) (s : Node) (b : Block)
    (hg : b.qc.isGenesis = false) (hm : s.readBlock b.parent = .missing)
    (hnew : (s.syncPending.any fun x => x.digest == b.digest) = false)
    (hreq : s.syncRequests.contains b.parent = false) (ha : b.author ∈ c.keys) :
    processBlock c s b =
      ({ s with syncPending := s.syncPending ++ [b], syncRequests := s.syncRequests ++ [b.parent] }).emit
        (.syncRequest (some b.author) b.parent) := by
  have hreq' : b.parent ∉ s.syncRequests := by simpa using hreq
  simp [processBlock, getParent, hg, hm, park, hnew, hreq', ha]

theorem second_child_does_not_repeat_request (c : Committee) (s : Node) (b : Block)
    (hnew : (s.syncPending.any fun x => x.digest == b.digest) = false)
    (hreq : s.syncRequests.contains b.parent = true) :
    park c s b = { s with syncPending := s.syncPending ++ [b] } := by
  unfold park
  have hreq' : b.parent ∈ s.syncRequests := by simpa using hreq
  simp [hnew, hreq']

/-- A parked block is released to the loop-back queue only once its parent is in the store. -/
theorem resume_only_after_parent_stored (c : Committee) (s : Node) (i : Nat) (b : Block)
    (hb : s.syncPending[i]? = some b) (hm : s.readBlock b.parent = .missing) :
    step c s (.syncResume i) = s := by
  by_cases hp : s.panic.isSome = true
  · simp only [step, hp, if_true]
  · simp only [step, hp, hb, hm, Bool.false_eq_true, if_false]

/-- (S3) Oldest first: a block enters the store only after its parent did (or it extends genesis),
so a chain of missing ancestors is stored — and its commits delivered — in increasing chain order. -/
theorem stored_only_after_parent (c : Committee) (name : Nat) (hd : Deploy c name) (es : List Event)
    (d : Digest) (b : Block) (hb : (d, b) ∈ (run c (init c name) es).store) :
    b.qc.isGenesis = true ∨ ((run c (init c name) es).store.lookup b.parent).isSome = true :=
  (reachable_inv4 c name hd rfl es).closed d b hb

/-- (S4) An unanswered request is re-broadcast to all peers on the retry tick, for as long as the
parent is still being waited for. -/
theorem unanswered_request_is_retried (c : Committee) (s : Node) (d : Digest)
    (hp : s.panic = none) (hreq : s.syncRequests.contains d = true) :
    step c s (.syncRetry d) = s.emit (.syncRequest none d) := by
  unfold step
  have hreq' : d ∈ s.syncRequests := by simpa using hreq
  simp [hp, hreq']

/-- Non-vacuity: node 1 receives the round-2 block first (parent unknown): it parks it and asks
the author; when the round-1 block arrives the parked block is resumed and processed. -/
example :
    let c : Committee := ⟨[(1, 1), (2, 1), (3, 1), (4, 1)]⟩
    let mk (a r : Nat) (q : QC) : Block :=
      { qc := q, tc := none, author := a, round := r, payload := [], sig := ⟨a, .block (.block a r [] q.hash)⟩ }
    let cert (b : Block) : QC :=
      { hash := b.digest, round := b.round, votes := [(2, ⟨2, .vote b.digest b.round⟩), (3, ⟨3, .vote b.digest b.round⟩), (4, ⟨4, .vote b.digest b.round⟩)] }
    let b1 := mk 2 1 QC.genesis
    let b2 := mk 3 2 (cert b1)
    let s1 := run c (init c 1) [.msg (.propose b2)]
    let s2 := run c s1 [.msg (.propose b1), .syncResume 0, .loopback]
    s1.hist.contains (.syncRequest (some 3) b1.digest) = true ∧ s1.syncPending.length = 1 ∧
    s2.store.length = 2 ∧ s2.syncPending.length = 0 := by
  decide

/-! ### The timed `Synchronizer` task (`HS.Sync`, `Model/Synchronizer.lean`): request, retry, resume

The node model above treats a retry as an event the environment may fire.  The theorems below are about
the model of the task itself — its tables WITH timestamps and its timer rule
`timestamp + sync_retry_delay < now`, which is regenerated from `consensus/src/synchronizer.rs` on every
run (`Gen.syncRetryDue`) and driven in lock-step with the real task by the engine `syncretry`. -/

/-- (T1) "it requests each missing ancestor": the first child of a missing parent sends exactly one
request, to that child's author, and the request is stamped with the current time; a second child of
the same parent, or the same block handed over again, sends nothing. -/
theorem sync_first_request_to_author_once (delay : Nat) (s : Sync.State) (b p a now : Nat) :
    (b ∉ s.pending → Sync.hasReq s p = false →
      (Sync.step delay s (.suspend b p a now)).2 = [.request a p] ∧
      (⟨p, now⟩ : Sync.Req) ∈ (Sync.step delay s (.suspend b p a now)).1.requests) ∧
    ((b ∈ s.pending ∨ Sync.hasReq s p = true) → (Sync.step delay s (.suspend b p a now)).2 = []) := by
  rw [Sync.step_suspend]
  refine ⟨fun hb hr => by simp [hb, hr], fun h => ?_⟩
  by_cases hb : b ∈ s.pending
  · simp [hb]
  · simp [hb, h.resolve_left hb]

/-- (T2) The timer re-broadcasts exactly the requests older than the retry delay — none earlier,
none left out — and sends nothing else. -/
theorem sync_timer_retries_exactly_the_overdue (delay : Nat) (s : Sync.State) (now : Nat) :
    (∀ p, .broadcast p ∈ (Sync.step delay s (.tick now)).2 ↔
      ∃ r ∈ s.requests, r.parent = p ∧ r.ts + delay < now) ∧
    (∀ o ∈ (Sync.step delay s (.tick now)).2, ∃ p, o = .broadcast p) :=
  ⟨Sync.tick_out delay s now, fun o ho => by
    -- the output of a tick is `(due delay s.requests now).map (.broadcast ·.parent)`
    obtain ⟨r, _, rfl⟩ := List.mem_map.mp ho
    exact ⟨_, rfl⟩⟩

/-- (T3) "an unanswered request is retried with other peers": a request stamped `ts`, for as long as
its parent has not been stored — whatever else is suspended, stored or ticked in between — is
re-broadcast at EVERY tick later than `ts + delay` (the timestamp is never refreshed). -/
theorem sync_unanswered_request_retried_at_every_due_tick (delay : Nat) (s : Sync.State)
    (es : List Sync.Event) (r : Sync.Req) (now : Nat)
    (hr : r ∈ s.requests) (hun : ∀ e ∈ es, e ≠ .stored r.parent) (hdue : r.ts + delay < now) :
    .broadcast r.parent ∈ (Sync.step delay (Sync.run delay s es).1 (.tick now)).2 :=
  (Sync.tick_out delay _ now r.parent).2 ⟨r, Sync.request_persists delay s es r hr hun, rfl, hdue⟩

/-- (T4) "processes them": a suspended block goes back to the core only when its own parent is stored;
then every child waiting for that parent goes back, each once, and nothing of that parent is left —
no waiter, no pending child, no request, so no later tick repeats the request. -/
theorem sync_resume_exactly_on_parent (delay : Nat) (es : List Sync.Event) (p : Nat) :
    let s := (Sync.run delay {} es).1
    (∀ e b, .loopback b ∈ (Sync.step delay s e).2 → ∃ q, e = .stored q ∧ (⟨b, q⟩ : Sync.Wait) ∈ s.waiting) ∧
    (∀ b, (⟨b, p⟩ : Sync.Wait) ∈ s.waiting → .loopback b ∈ (Sync.step delay s (.stored p)).2) ∧
    (Sync.step delay s (.stored p)).2.Nodup ∧
    (∀ b, .loopback b ∈ (Sync.step delay s (.stored p)).2 → b ∉ (Sync.step delay s (.stored p)).1.pending) ∧
    (∀ now, .broadcast p ∉ (Sync.step delay (Sync.step delay s (.stored p)).1 (.tick now)).2) := by
  intro s
  have hI : Sync.Inv s := Sync.inv_run delay {} es Sync.inv_init
  -- the step `stored p`, with `done := s.waiting.filter (·.parent == p)`: the output is
  -- `done.map (.loopback ·.block)`, and `pending` becomes `s.pending.filter (fun b => !done.any (·.block == b))`
  refine ⟨Sync.loopback_only_on_stored delay s, fun b h => ?_, ?_,
    fun b h hb => ?_, fun now => Sync.no_retry_after_stored delay s p now hI⟩
  · exact List.mem_map.mpr ⟨⟨b, p⟩, List.mem_filter.mpr ⟨h, by simp⟩, rfl⟩
  · -- one waiter per block
    exact List.pairwise_map.mpr ((hI.waitNodup.filter _).imp fun hne e => hne (Sync.Out.loopback.inj e))
  · -- `b` is the block of one of the waiters resumed, and `pending` was filtered by exactly those
    obtain ⟨w, hw, e⟩ := List.mem_map.mp h
    have := (List.mem_filter.mp hb).2
    simp only [Bool.not_eq_eq_eq_not, Bool.not_true, List.any_eq_false, beq_iff_eq] at this
    exact this w hw (Sync.Out.loopback.inj e)

/-- Non-vacuity (the default configuration: delay 10 s, ticks every 5 s): two children of parent 7,
one request to the first child's author; silent at the ticks of 5 s and 10 s, re-broadcast at 15 s
and 20 s; once 7 is stored both children go back and the tick of 25 s is silent. -/
example :
    (Sync.run 10000 {} [.suspend 1 7 3 2, .suspend 2 7 4 5, .tick 5000, .tick 10000, .tick 15000,
      .tick 20000, .stored 7, .tick 25000]).2 =
      [.request 3 7, .broadcast 7, .broadcast 7, .loopback 1, .loopback 2] := by
  decide

/-- (safety half of "ends up delivering the same committed sequence as the others")  In every
reachable state of the global model — any isolation, any delays, Byzantine stake ≤ f — the delivery
logs of two honest nodes, compared block digest by block digest from the first delivery on, are
prefixes of one another: a lagging node is only ever BEHIND the others, never on another sequence,
so once it has delivered as many blocks as they have, it has delivered the same ones. -/
theorem never_diverges (X : World) (G : GState) (hR : Reach X G) (i j : Nat)
    (hi : X.honest i) (hj : X.honest j) :
    (commitsOf (G i).hist).reverse.map Block.digest <+: (commitsOf (G j).hist).reverse.map Block.digest ∨
    (commitsOf (G j).hist).reverse.map Block.digest <+: (commitsOf (G i).hist).reverse.map Block.digest :=
  C02.delivery_logs_prefix_consistent X G hR i j hi hj

theorem same_length_same_log (X : World) (G : GState) (hR : Reach X G) (i j : Nat)
    (hi : X.honest i) (hj : X.honest j)
    (hlen : (commitsOf (G i).hist).length = (commitsOf (G j).hist).length) :
    (commitsOf (G i).hist).map Block.digest = (commitsOf (G j).hist).map Block.digest := by
  have hl : ((commitsOf (G i).hist).reverse.map Block.digest).length =
      ((commitsOf (G j).hist).reverse.map Block.digest).length := by simp [hlen]
  have e := (never_diverges X G hR i j hi hj).elim (·.eq_of_length hl) (·.eq_of_length hl.symm |>.symm)
  simpa [List.map_reverse] using congrArg List.reverse e

end HS.C07
