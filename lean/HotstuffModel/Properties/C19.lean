import HotstuffModel.Proofs.Reachable
import HotstuffModel.Properties.C17
/-!
# C19 — Certificates a node assembles are valid, need a quorum, and are formed once

Part 1: the aggregator (`QCMaker`/`TCMaker::append`), for every committee and every sequence of
verified votes/timeouts.  Part 2: everything the node sends out or acts upon verifies.
-/
namespace HS.C19
open HS Node

/-- A QC is returned exactly in the step in which the accumulated stake first reaches the quorum —
never earlier — it verifies at every honest node, is for exactly the vote's (hash, round), never
counts an authority twice (the author was not used before), and the maker's weight is reset. -/
theorem qc_formed_exactly_at_quorum (c : Committee) (m m' : QCMaker) (v : Vote) (r : Option QC)
    (hm : QCMakerOK c (v.round, v.hash) m) (hv : v.verify c = .ok ())
    (h : m.append c v = .ok (m', r)) :
    QCMakerOK c (v.round, v.hash) m' ∧
    (∀ qc, r = some qc → qc.verify c = .ok () ∧ qc.hash = v.hash ∧ qc.round = v.round ∧
      c.quorum ≤ m.weight + c.stake v.author ∧ v.author ∉ m.used ∧ m'.weight = 0) ∧
    (r = none → m.weight + c.stake v.author < c.quorum ∧ m'.weight = m.weight + c.stake v.author) := by
  obtain ⟨okAfter, hver⟩ := hm.append hv h
  obtain ⟨hnew, w, rfl, ⟨hq, rfl, rfl⟩ | ⟨hq, rfl, rfl⟩⟩ := QCMaker.append_ok h
  · -- the quorum is reached: `r` is the certificate
    exact ⟨okAfter, fun _ e => by cases e; exact ⟨hver _ rfl, rfl, rfl, hq, hnew, rfl⟩, nofun⟩
  · -- not reached: `r = none`
    exact ⟨okAfter, nofun, fun _ => ⟨hq, rfl⟩⟩

theorem tc_formed_exactly_at_quorum (c : Committee) (m m' : TCMaker) (t : Timeout) (r : Option TC)
    (hm : TCMakerOK c t.round m) (hv : t.verify c = .ok ())
    (h : m.append c t = .ok (m', r)) :
    TCMakerOK c t.round m' ∧
    (∀ tc, r = some tc → tc.verify c = .ok () ∧ tc.round = t.round ∧
      c.quorum ≤ m.weight + c.stake t.author ∧ t.author ∉ m.used ∧ m'.weight = 0) ∧
    (r = none → m.weight + c.stake t.author < c.quorum ∧ m'.weight = m.weight + c.stake t.author) := by
  obtain ⟨okAfter, hver⟩ := hm.append hv h
  obtain ⟨hnew, w, rfl, ⟨hq, rfl, rfl⟩ | ⟨hq, rfl, rfl⟩⟩ := TCMaker.append_ok h
  · -- the quorum is reached: `r` is the certificate
    exact ⟨okAfter, fun _ e => by cases e; exact ⟨hver _ rfl, rfl, hq, hnew, rfl⟩, nofun⟩
  · -- not reached: `r = none`
    exact ⟨okAfter, nofun, fun _ => ⟨hq, rfl⟩⟩

/-- A second vote of the same authority for the same (hash, round) is refused and changes nothing. -/
theorem duplicate_vote_refused (c : Committee) (m : QCMaker) (v : Vote) (h : v.author ∈ m.used) :
    m.append c v = .error .authorityReuse := by
  unfold QCMaker.append
  simp [h]

/-- Votes for different blocks or rounds are never mixed: a vote only ever touches the maker
filed under its own (round, hash). -/
theorem votes_not_mixed (c : Committee) (a a' : Aggregator) (v : Vote) (r : Option QC)
    (h : a.addVote c v = .ok (a', r)) (k : Nat × Digest) (hk : k ≠ (v.round, v.hash)) :
    a'.getQ k = a.getQ k := by
  obtain ⟨m', -, rfl⟩ := addVote_eq h
  have : (k == (v.round, v.hash)) = false := beq_false_of_ne hk
  simp only [Aggregator.getQ, Aggregator.setQ, List.lookup_cons, this,
    lookup_filter (p := fun e => e.1 != (v.round, v.hash)) (fun _ => bne_iff_ne.mpr hk)]

/-- After a certificate has been formed the maker cannot form another one: the remaining stake is
below the quorum (committee with distinct keys, total stake in the arithmetic's range). -/
theorem no_second_certificate (c : Committee) (hw : c.WF) (hn1 : 1 ≤ c.total) (hn2 : c.total < 2 ^ 31)
    (k : Nat × Digest) (m : QCMaker) (hm : QCMakerOK c k m)
    (hformed : c.quorum + m.weight ≤ c.weight (m.votes.map Prod.fst))
    (v : Vote) (hk : k = (v.round, v.hash)) (hv : v.verify c = .ok ()) (m' : QCMaker) (r : Option QC)
    (h : m.append c v = .ok (m', r)) : r = none := by
  subst hk
  obtain ⟨-, w, rfl, ⟨hq, -, -⟩ | ⟨-, -, e⟩⟩ := QCMaker.append_ok h
  · have hm' := (hm.append hv h).1
    -- the new maker's authors are distinct members, so they weigh at most the total stake,
    have hle := Q.weight_le_of_subset c.stake _ c.keys hm'.nodup
      (List.forall_mem_map.mpr fun p hp => stake_ne_zero_mem c _ (hm'.valid p hp).1)
    rw [c.weight_keys hw] at hle
    -- and they weigh the old authors plus the new one: twice the quorum in all
    simp only [List.map_append, List.map_cons, List.map_nil, ← c.weight_eq, c.weight_append_single] at hle
    have hb := (C17.quorum_bounds c hn1 hn2).1
    omega
  · exact e

/-- Every certificate the node sends out or proposes with verifies at every honest node: the TCs
it broadcasts, the QC/TC in every `Make` request and own proposal, the QC in every timeout. -/
theorem sent_certificates_verify (c : Committee) (name : Nat) (hd : Deploy c name) (es : List Event) :
    let s := run c (init c name) es
    (∀ t, Out.tc t ∈ s.hist → t.verify c = .ok ()) ∧
    (∀ b, Out.propose b ∈ s.hist → QCok c b.qc ∧ TCok c b.tc) ∧
    (∀ t, Out.timeout t ∈ s.hist → QCok c t.highQC) ∧
    QCok c s.highQC := by
  intro s
  have i3 := reachable_inv3 c name hd es
  exact ⟨i3.tcs, fun b hb => ⟨(i3.proposed b hb).1.qc, (i3.proposed b hb).1.tc⟩,
    fun t ht => (i3.touts t ht).1, i3.hq⟩

/-- Every maker the node holds is sound at all times: distinct authors, each with stake, each
signature valid for exactly the maker's (hash, round) / (round, high-QC round). -/
theorem aggregator_always_sound (c : Committee) (name : Nat) (hd : Deploy c name) (es : List Event) :
    AggOK c (run c (init c name) es).agg := (reachable_inv3 c name hd es).agg

/-- Non-vacuity: unequal stakes 3,2,2,1,1,0 (quorum 7): votes of 1,2 (stake 5) form nothing, the
vote of 3 crosses the threshold, later votes form nothing more. -/
example :
    let c : Committee := ⟨[(1, 3), (2, 2), (3, 2), (4, 1), (5, 1), (6, 0)]⟩
    let d : Digest := .block 2 1 [] .zero
    let v (k : Nat) : Vote := { hash := d, round := 1, author := k, sig := ⟨k, .vote d 1⟩ }
    let step (a : Aggregator × List Bool) (k : Nat) : Aggregator × List Bool :=
      match a.1.addVote c (v k) with
      | .ok (a', r) => (a', a.2 ++ [r.isSome])
      | .error _ => (a.1, a.2 ++ [false])
    c.quorum = 7 ∧ ([1, 2, 2, 3, 4, 5].foldl step ({}, [])).2 = [false, false, false, true, false, false] := by
  decide

end HS.C19
