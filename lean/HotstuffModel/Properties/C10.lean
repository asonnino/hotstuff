import HotstuffModel.Proofs.NodeInv2
/-!
# C10 — Pacemaker: rounds monotone, evidence-based, timeouts carry the highest QC

For EVERY finite event list from the initial state (messages for past and future rounds, valid or
not, in any order, interleaved with timer expiries and internal wake-ups) and every committee.
`Out.entered r ev` is the ghost record written by `advance_round` when the round changes;
`ev` is the certificate (`QC` or `TC`) that was passed to `advance_round`.
(That every such certificate was verified or assembled from verified votes/timeouts is
`Inv3.entered`, Proofs/NodeInv3, for every reachable state by `reachable_inv3`.)
-/
namespace HS.C10
open HS Node

/-- The round a node acts in never decreases — in any single micro-step from ANY state. -/
theorem round_never_decreases_step (c : Committee) (s : Node) (e : Event) :
    s.round ≤ (step c s e).round := (ext_step c s e).round

/-- … hence along every run. -/
theorem round_never_decreases (c : Committee) (s : Node) (es es' : List Event) :
    (run c s es).round ≤ (run c s (es ++ es')).round := by
  rw [run_append]
  exact (ext_run c _ es').round

/-- A step that changes the round records the certificate that justified it, and the
certificate is for exactly the preceding round. -/
theorem round_change_has_certificate (c : Committee) (s : Node) (e : Event)
    (h : (step c s e).round ≠ s.round) :
    ∃ new ev, (step c s e).hist = new ++ s.hist ∧ Out.entered (step c s e).round ev ∈ new := by
  obtain ⟨new, hnew, hr⟩ := (ext_step c s e).hist
  obtain ⟨ev, hev⟩ := hr h
  exact ⟨new, ev, hnew, hev⟩

/-- Rounds are entered in strictly increasing order, each at most the current round. -/
theorem entered_rounds_increase (c : Committee) (name : Nat) (es : List Event)
    (h1 h2 : List Out) (r : Nat) (ev : Evidence)
    (hh : (run c (init c name) es).hist = h1 ++ .entered r ev :: h2) :
    (∀ r' ev', Out.entered r' ev' ∈ h2 → r' < r) ∧ r ≤ (run c (init c name) es).round := by
  have i2 := (reachable_inv12 c name es).2
  exact ⟨(hh ▸ i2.ords).split (o := .entered r ev), i2.enteredLe r ev (by rw [hh]; simp)⟩

/-- `high_qc` never goes down and is always below the current round. -/
theorem high_qc_monotone_and_below_round (c : Committee) (name : Nat) (es es' : List Event) :
    (run c (init c name) es).highQC.round ≤ (run c (init c name) (es ++ es')).highQC.round ∧
    (run c (init c name) es).highQC.round < (run c (init c name) es).round := by
  rw [run_append]
  exact ⟨(ext_run c _ es').highQC, (reachable_inv12 c name es).1.hq_lt⟩

/-- Every timeout the node signs carries a QC at least as high as the QC of any block it voted
for before and as any QC it has itself sent before (in its own proposals, in earlier timeouts,
in blocks its helper re-sent); and the QC is of a lower round than the timeout. -/
theorem timeout_carries_highest_qc (c : Committee) (name : Nat) (es : List Event)
    (h1 h2 : List Out) (t : Timeout)
    (hh : (run c (init c name) es).hist = h1 ++ .timeout t :: h2) :
    (∀ b, Out.voted b ∈ h2 → b.qc.round ≤ t.highQC.round) ∧
    (∀ b, Out.propose b ∈ h2 → b.qc.round ≤ t.highQC.round) ∧
    (∀ t', Out.timeout t' ∈ h2 → t'.highQC.round ≤ t.highQC.round) ∧
    (∀ to b, Out.helperReply to b ∈ h2 → b.qc.round ≤ t.highQC.round) ∧
    t.highQC.round < t.round := by
  have i := reachable_inv12 c name es
  obtain ⟨votes, proposals, timeouts, replies⟩ := (hh ▸ i.2.ords).split (o := .timeout t)
  obtain ⟨_, _, qcBelow⟩ := i.1.touts t (by rw [hh]; simp)
  exact ⟨votes, proposals, timeouts, replies, qcBelow⟩

/-- Non-vacuity: the timer fires in round 1, then a valid TC of round 1 arrives: the node enters
round 2 on that evidence. -/
example :
    let c : Committee := ⟨[(1, 1), (2, 1), (3, 1), (4, 1)]⟩
    let tc : TC := { round := 1, votes := [(1, ⟨1, .timeout 1 0⟩, 0), (2, ⟨2, .timeout 1 0⟩, 0), (4, ⟨4, .timeout 1 0⟩, 0)] }
    let s := run c (init c 1) [.timer, .msg (.tc tc)]
    s.round = 2 ∧ s.hist.contains (.entered 2 (.tc tc)) = true ∧ s.lastVoted = 1 := by
  decide

end HS.C10
