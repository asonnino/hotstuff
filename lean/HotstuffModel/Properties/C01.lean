import HotstuffModel.Proofs.Bridge
/-!
# C01 — Agreement: honest nodes never commit conflicting blocks

Global model (Proofs/Global.lean): one node model per honest committee member.  `Reach X G`:
`G` is reachable by any finite sequence of global steps, each delivering ANY event to ANY honest
member — any message with any content, in any order, any number of times, to any subset of nodes;
timers firing at any time; internal queues served in any interleaving — subject to one condition
only: a signature token naming an HONEST signer inside a delivered message must have been produced
by that signer (its own history records signing that content).  Tokens of Byzantine members
(`X.bad`, stake at most f = ⌊(n−1)/3⌋) are unconstrained, so equivocation, double votes, withheld or
stale certificates, replays and arbitrary message schedules/partitions are all covered.
Committees: any distinct keys, any stakes with total 1 ≤ n < 2^31, any number of rounds.

Assumptions (DESIGN §6): ideal signatures (a token verifies only for its signer and content) and
collision-free digests (a digest is its pre-image term); the byte-level layouts are injective and
domain-separated (C20).
-/
namespace HS.C01
open HS Node

/-- A delivery at an honest node is a commit in the abstract sense: the block is the head of a
quorum-certified consecutive-round 2-chain, or an ancestor of one. -/
theorem delivered_is_committed (X : World) (G : GState) (hR : Reach X G) (i : Nat) (hi : X.honest i)
    (x : Block) (hx : Out.commit x ∈ (G i).hist) :
    Abs.Committed (absCtx X) (absHist X G) x.digest := by
  obtain ⟨_, _, i3, _, i5⟩ := reach_local X G hR i hi
  have i6 := reach_legit X G hR i hi
  obtain ⟨hxpos, b0, b1, blk, hrec, hanc⟩ := i5.commits x hx
  obtain ⟨hr, hp1, hp0⟩ := i5.chains b0 b1 blk hrec
  obtain ⟨hckb, hck1⟩ := i3.chains b0 b1 blk hrec
  obtain ⟨htkb, htk1⟩ := i6.chains b0 b1 blk hrec
  -- neither block of the 2-chain is the genesis placeholder: `b1` has a positive round, and so has
  -- `x`, which is on the chain of `b0`
  have hb1 : b1 ≠ Block.genesis := by rintro rfl; exact absurd hr (Nat.succ_ne_zero _)
  have hb0 : b0 ≠ Block.genesis := by
    rintro rfl
    -- the chain of the genesis digest is the genesis digest alone, so `x` would have round 0
    have : dRound x.digest = 0 := congrArg dRound (List.mem_singleton.mp hanc)
    exact absurd this (Nat.ne_of_gt hxpos)
  -- so each is certified by the QC of the block above it
  obtain ⟨_, c1⟩ := parent_certified X G (hp := hp1) (hne := hb1) (hq := hckb.qc) (ht := htkb.1)
  obtain ⟨e0, c0⟩ := parent_certified X G (hp := hp0) (hne := hb0)
    (hq := (hck1.resolve_left hb1).qc) (ht := (htk1.resolve_left hb1).1)
  -- `b0` is certified, directly committed (its child `b1`, one round up, is certified), and `x` is
  -- on its chain
  exact ⟨b0.digest, c0, ⟨b1.digest, e0.symm, hr.symm, c1⟩, (extends_iff_mem_chain X G).mpr hanc⟩

/-- AGREEMENT.  Across all honest nodes and all time, every two delivered blocks lie on a single
chain: one is the other or an ancestor of it. -/
theorem agreement (X : World) (G : GState) (hR : Reach X G) (i j : Nat)
    (hi : X.honest i) (hj : X.honest j) (x y : Block)
    (hx : Out.commit x ∈ (G i).hist) (hy : Out.commit y ∈ (G j).hist) :
    AncOrSelf y x ∨ AncOrSelf x y :=
  (Abs.agreement (absCtx X) (absHist X G) Digest.zero (reach_localInv X G hR)
    (delivered_is_committed X G hR i hi x hx) (delivered_is_committed X G hR j hj y hy)).imp
    (extends_iff_mem_chain X G).mp (extends_iff_mem_chain X G).mp

/-- No two honest nodes ever commit different blocks for the same chain position (height). -/
theorem no_two_blocks_at_one_position (X : World) (G : GState) (hR : Reach X G) (i j : Nat)
    (hi : X.honest i) (hj : X.honest j) (x y : Block)
    (hx : Out.commit x ∈ (G i).hist) (hy : Out.commit y ∈ (G j).hist)
    (hpos : digestDepth x.digest = digestDepth y.digest) : x.digest = y.digest := by
  -- the chain of `a` is a suffix of the chain of `b`, and of the same length: it is all of it
  have eq_of_depth : ∀ {a b : Block}, AncOrSelf a b → digestDepth a.digest = digestDepth b.digest →
      a.digest = b.digest := fun h hd =>
    (List.cons.inj ((chain_suffix h).eq_of_length (by rw [chain_length, chain_length, hd]))).1
  rcases agreement X G hR i j hi hj x y hx hy with h | h
  · exact (eq_of_depth h hpos.symm).symm
  · exact eq_of_depth h hpos

/-- At most one block is ever certified per round (so at most one block per round can be committed). -/
theorem one_certified_block_per_round (X : World) (G : GState) (hR : Reach X G) (q q' : QC)
    (hv : q.verify X.c = .ok ()) (hv' : q'.verify X.c = .ok ())
    (ht : QCtok (Legit X.bad G) q) (ht' : QCtok (Legit X.bad G) q') (hr : q.round = q'.round) :
    q.hash = q'.hash := by
  obtain ⟨c1, r1⟩ := qc_certifies X G hv ht
  obtain ⟨c2, r2⟩ := qc_certifies X G hv' ht'
  exact Abs.certified_unique (absCtx X) (absHist X G) Digest.zero (reach_localInv X G hR) c1 c2
    ((r1.trans hr).trans r2.symm)

/-- Non-vacuity of `Reach`: committee {1,2,3,4} with equal stakes, member 4 Byzantine; three honest
nodes receive the leader's round-1 block. -/
example : ∃ X : World, X.honest 1 ∧ X.honest 3 ∧ X.bad 4 = true ∧
    ∃ G, Reach X G ∧ (G 3).lastVoted = 1 := by
  let c : Committee := ⟨[(1, 1), (2, 1), (3, 1), (4, 1)]⟩
  let X : World := { c := c, bad := fun k => k == 4, wf := by decide, nonempty := by decide,
                     n1 := by decide, n2 := by decide, badBound := by decide }
  have h1 : X.honest 1 := ⟨by decide, rfl⟩
  have h3 : X.honest 3 := ⟨by decide, rfl⟩
  refine ⟨X, h1, h3, rfl, ?_⟩
  let b : Block := { qc := QC.genesis, tc := none, author := 2, round := 1, payload := [],
                     sig := ⟨2, .block (.block 2 1 [] .zero)⟩ }
  refine ⟨_, Reach.step _ 3 (.msg (.propose b)) Reach.init h3 ?_, by decide⟩
  -- the tokens inside `b` are legitimate for an empty reason: its QC has no votes, it has no TC
  exact ⟨by intro v hv; simp [b, QC.genesis] at hv, by intro x hx; simp [b] at hx⟩

end HS.C01
