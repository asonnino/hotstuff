import HotstuffModel.Proofs.Preimage
import HotstuffModel.Proofs.BincodeWF
/-!
# C20 — Message identity: digests bind content and survive wire and store round trips

Byte-level statements about the model in `Model/{Bytes,Base64,Bincode,Preimage}.lean`, which the engine
`codec` of the harness ties to the real `digest()`, `bincode::serialize` and `bincode::deserialize`
byte for byte.

Every digest in the code is `SHA-512(pre-image)[..32]`.  The hash function is **not** modelled: the
theorems below take an arbitrary function `H` and conclude "… or `H` has a collision on two *different,
explicitly given* pre-images".  **Collision-freeness of SHA-512 truncated to 32 bytes on the pre-images
that occur is the one remaining assumption of C20**; everything else (layouts are injective in their
fields, kinds are separated by length, (de)serialisation preserves every field) is proved here.
-/
namespace HS.C20
open HS.Wire

def Collision (H : List UInt8 → List UInt8) (x y : List UInt8) : Prop := x ≠ y ∧ H x = H y

/-- What the Rust types guarantee about the fields that enter a block digest. -/
@[reducible] def BlockFieldsWF (b : Block) : Prop :=
  b.author.length = 32 ∧ b.round < 2 ^ 64 ∧ (∀ d ∈ b.payload, d.length = 32) ∧ b.qc.hash.length = 32

theorem BlockFieldsWF.of_wf {b : Block} (w : b.WF) : BlockFieldsWF b :=
  by obtain ⟨⟨qcHash, -⟩, -, author, round, -, payload, -⟩ := w; exact ⟨author, round, payload, qcHash⟩

/-! ## Layouts are injective in their fields -/

theorem block_preimage_injective (b b' : Block) (h : BlockFieldsWF b) (h' : BlockFieldsWF b')
    (e : b.pre = b'.pre) :
    b.author = b'.author ∧ b.round = b'.round ∧ b.payload = b'.payload ∧ b.qc.hash = b'.qc.hash :=
  blockPre_inj (ha := h.1) (hr := h.2.1) (hp := h.2.2.1) (hq := h.2.2.2)
    (ha' := h'.1) (hr' := h'.2.1) (hp' := h'.2.2.1) (hq' := h'.2.2.2) e

theorem vote_preimage_injective (v v' : Vote) (hh : v.hash.length = 32) (hh' : v'.hash.length = 32)
    (hr : v.round < 2 ^ 64) (hr' : v'.round < 2 ^ 64) (e : v.pre = v'.pre) :
    v.hash = v'.hash ∧ v.round = v'.round :=
  votePre_inj hh hh' hr hr' e

theorem qc_preimage_injective (q q' : QC) (hh : q.hash.length = 32) (hh' : q'.hash.length = 32)
    (hr : q.round < 2 ^ 64) (hr' : q'.round < 2 ^ 64) (e : q.pre = q'.pre) :
    q.hash = q'.hash ∧ q.round = q'.round :=
  votePre_inj hh hh' hr hr' e

/-- A vote and a QC have the same pre-image exactly when they speak about the same (hash, round):
by design a QC is verified against the digest its votes signed. -/
theorem vote_qc_preimage_eq_iff (v : Vote) (q : QC) (hh : v.hash.length = 32) (hh' : q.hash.length = 32)
    (hr : v.round < 2 ^ 64) (hr' : q.round < 2 ^ 64) :
    v.pre = q.pre ↔ (v.hash = q.hash ∧ v.round = q.round) := by
  constructor
  · exact votePre_inj hh hh' hr hr'
  · intro ⟨h1, h2⟩; unfold Vote.pre QC.pre; rw [h1, h2]

theorem timeout_preimage_injective (t t' : Timeout) (hr : t.round < 2 ^ 64) (hr' : t'.round < 2 ^ 64)
    (hq : t.highQc.round < 2 ^ 64) (hq' : t'.highQc.round < 2 ^ 64) (e : t.pre = t'.pre) :
    t.round = t'.round ∧ t.highQc.round = t'.highQc.round :=
  timeoutPre_inj hr hr' hq hq' e

/-- The pre-image each TC entry is verified against is the pre-image of the timeout it came from, and is
injective in (TC round, entry's high-QC round). -/
theorem tc_entry_preimage (tc : TC) (e : List UInt8 × Sig × Nat) (t : Timeout)
    (h1 : t.round = tc.round) (h2 : t.highQc.round = e.2.2) : tc.entryPre e = t.pre := by
  unfold TC.entryPre Timeout.pre; rw [h1, h2]

theorem tc_entry_preimage_injective (tc tc' : TC) (e e' : List UInt8 × Sig × Nat)
    (hr : tc.round < 2 ^ 64) (hr' : tc'.round < 2 ^ 64) (hq : e.2.2 < 2 ^ 64) (hq' : e'.2.2 < 2 ^ 64)
    (h : tc.entryPre e = tc'.entryPre e') : tc.round = tc'.round ∧ e.2.2 = e'.2.2 :=
  timeoutPre_inj hr hr' hq hq' h

/-! ## Domain separation: the three kinds have pairwise different pre-image lengths -/

theorem preimage_lengths (b : Block) (v : Vote) (t : Timeout) (hb : BlockFieldsWF b)
    (hv : v.hash.length = 32) :
    b.pre.length = 72 + 32 * b.payload.length ∧ v.pre.length = 40 ∧ t.pre.length = 16 :=
  ⟨blockPre_length (ha := hb.1) (hp := hb.2.2.1) (hq := hb.2.2.2), votePre_length hv, timeoutPre_length⟩

theorem kinds_separated (b : Block) (v : Vote) (q : QC) (t : Timeout) (tc : TC)
    (e : List UInt8 × Sig × Nat) (hb : BlockFieldsWF b) (hv : v.hash.length = 32)
    (hq : q.hash.length = 32) :
    b.pre ≠ v.pre ∧ b.pre ≠ q.pre ∧ b.pre ≠ t.pre ∧ b.pre ≠ tc.entryPre e ∧
    v.pre ≠ t.pre ∧ v.pre ≠ tc.entryPre e ∧ q.pre ≠ t.pre ∧ q.pre ≠ tc.entryPre e := by
  obtain ⟨lb, lv, lt⟩ := preimage_lengths b v t hb hv
  have lq : q.pre.length = 40 := votePre_length hq
  have le : (tc.entryPre e).length = 16 := timeoutPre_length
  -- three classes of lengths: at least 72, 40, 16
  have h40 : ∀ x : List UInt8, x.length = 40 → b.pre ≠ x := fun x hx e => by rw [e, hx] at lb; omega
  have h16 : ∀ x : List UInt8, x.length = 16 → b.pre ≠ x := fun x hx e => by rw [e, hx] at lb; omega
  have hvt : ∀ x y : List UInt8, x.length = 40 → y.length = 16 → x ≠ y :=
    fun x y hx hy e => by rw [e, hy] at hx; cases hx
  exact ⟨h40 _ lv, h40 _ lq, h16 _ lt, h16 _ le, hvt _ _ lv lt, hvt _ _ lv le, hvt _ _ lq lt, hvt _ _ lq le⟩

/-! ## Digests: equal digests mean equal fields, or an explicit hash collision -/

theorem binds_or_collision {P : Prop} (H : List UInt8 → List UInt8) {x y : List UInt8} (inj : x = y → P)
    (e : H x = H y) : P ∨ Collision H x y :=
  (Decidable.em (x = y)).imp inj fun hp => ⟨hp, e⟩

/-- Blocks with equal digests agree on author, round, payload and parent — or the two (different)
block pre-images are a collision of the hash function. -/
theorem block_digest_binds (H : List UInt8 → List UInt8) (b b' : Block) (h : BlockFieldsWF b)
    (h' : BlockFieldsWF b') (e : H b.pre = H b'.pre) :
    (b.author = b'.author ∧ b.round = b'.round ∧ b.payload = b'.payload ∧ b.qc.hash = b'.qc.hash)
    ∨ Collision H b.pre b'.pre :=
  binds_or_collision H (block_preimage_injective b b' h h') e

/-- Votes (and likewise QCs) with equal digests speak about the same block hash and round, or the hash
function collides. -/
theorem vote_digest_binds (H : List UInt8 → List UInt8) (v v' : Vote) (hh : v.hash.length = 32)
    (hh' : v'.hash.length = 32) (hr : v.round < 2 ^ 64) (hr' : v'.round < 2 ^ 64)
    (e : H v.pre = H v'.pre) : (v.hash = v'.hash ∧ v.round = v'.round) ∨ Collision H v.pre v'.pre :=
  binds_or_collision H (vote_preimage_injective v v' hh hh' hr hr') e

theorem qc_digest_binds (H : List UInt8 → List UInt8) (q q' : QC) (hh : q.hash.length = 32)
    (hh' : q'.hash.length = 32) (hr : q.round < 2 ^ 64) (hr' : q'.round < 2 ^ 64)
    (e : H q.pre = H q'.pre) : (q.hash = q'.hash ∧ q.round = q'.round) ∨ Collision H q.pre q'.pre :=
  binds_or_collision H (qc_preimage_injective q q' hh hh' hr hr') e

/-- Timeouts (and TC entries) with equal digests agree on round and high-QC round, or the hash collides. -/
theorem timeout_digest_binds (H : List UInt8 → List UInt8) (t t' : Timeout) (hr : t.round < 2 ^ 64)
    (hr' : t'.round < 2 ^ 64) (hq : t.highQc.round < 2 ^ 64) (hq' : t'.highQc.round < 2 ^ 64)
    (e : H t.pre = H t'.pre) :
    (t.round = t'.round ∧ t.highQc.round = t'.highQc.round) ∨ Collision H t.pre t'.pre :=
  binds_or_collision H (timeout_preimage_injective t t' hr hr' hq hq') e

/-- A digest signed for one kind (proposal / vote-QC / timeout-TC) equals a digest of another kind only
if the hash function collides: a signature cannot be moved between kinds. -/
theorem cross_kind_digest_is_collision (H : List UInt8 → List UInt8) (b : Block) (v : Vote) (t : Timeout)
    (hb : BlockFieldsWF b) (hv : v.hash.length = 32) :
    (H b.pre = H v.pre → Collision H b.pre v.pre) ∧
    (H b.pre = H t.pre → Collision H b.pre t.pre) ∧
    (H v.pre = H t.pre → Collision H v.pre t.pre) := by
  -- the three conjuncts taken do not speak of the QC, the TC or the TC entry: any TC and entry will do,
  -- and of the QC `kinds_separated` asks a 32-byte hash (the vote's is taken)
  obtain ⟨bv, -, bt, -, vt, -⟩ := kinds_separated b v ⟨v.hash, v.round, []⟩ t ⟨0, []⟩ ([], ⟨[], []⟩, 0) hb hv hv
  exact ⟨fun e => ⟨bv, e⟩, fun e => ⟨bt, e⟩, fun e => ⟨vt, e⟩⟩

/-! ## Serialisation round trips preserve every field (hence pre-image, digest, verifiability) -/

/-- `bincode::deserialize(bincode::serialize(m) ‖ trailing)` gives back exactly `m` (and leaves the
trailing bytes), for every well-formed consensus message, with the unchecked and with the checked key
slice. -/
theorem wire_roundtrip_consensus (c : Bool) (m : CMsg) (rest : List UInt8) (h : m.WF) :
    (decCMsg c).run (encCMsg m ++ rest) = .ok (m, rest) := decCMsg_enc c h rest

/-- Same for mempool messages (`Batch`, `BatchRequest`). -/
theorem wire_roundtrip_mempool (c : Bool) (m : MMsg) (rest : List UInt8) (h : m.WF) :
    (decMMsg c).run (encMMsg m ++ rest) = .ok (m, rest) := decMMsg_enc c h rest

/-- A block written to the store (`bincode::serialize(&block)`) and read back is the same block. -/
theorem store_roundtrip_block (c : Bool) (b : Block) (rest : List UInt8) (h : b.WF) :
    (decBlock c).run (encBlock b ++ rest) = .ok (b, rest) := decBlock_enc c h rest

/-- The sync path (`store_block` → `Helper` → `Propose` frame → receiver) delivers exactly the stored
block; the frame is the same frame the original proposer broadcast. -/
theorem sync_path_preserves_block (c : Bool) (b : Block) (h : b.WF) :
    syncPath c (encBlock b) = .ok (encCMsg (.propose b), .propose b) := by
  unfold syncPath
  rw [(decBlock_enc c h).run]
  simp only [(decCMsg_enc c (m := .propose b) h).run]

/-- Hence the message read back has the same signed pre-image (so the same digest under any hash
function), the same author and the same signature bytes: it verifies iff the original does. -/
theorem roundtrip_preserves_digest_preimage (c : Bool) (m : CMsg) (rest : List UInt8) (h : m.WF) :
    ∃ m' rest', (decCMsg c).run (encCMsg m ++ rest) = .ok (m', rest') ∧ m' = m ∧ m'.pre = m.pre :=
  ⟨m, rest, decCMsg_enc c h rest, rfl, rfl⟩

/-- The batch digest pre-image is the serialized `Batch` message; a stored batch decodes to the batch
that was serialised, so the digest identifies the transactions. -/
theorem batch_preimage_roundtrip (c : Bool) (txs : List (List UInt8)) (h : (MMsg.batch txs).WF) :
    (decMMsg c).run (batchPre txs) = .ok (.batch txs, []) := by
  unfold batchPre
  exact (decMMsg_enc c h).run

theorem batch_preimage_injective (txs txs' : List (List UInt8)) (h : (MMsg.batch txs).WF)
    (h' : (MMsg.batch txs').WF) (e : batchPre txs = batchPre txs') : txs = txs' := by
  have r := batch_preimage_roundtrip false txs h
  rw [e, batch_preimage_roundtrip false txs' h'] at r
  cases r
  rfl

/-! ## Everything a node can receive is well-formed, so the theorems above apply to received messages -/

/-- Whatever byte string arrives, if the decoder accepts it the resulting consensus message is
well-formed (32-byte digests/keys/signature halves, rounds and lengths below 2^64). -/
theorem decoded_consensus_message_wellformed (c : Bool) (bs r : List UInt8) (m : CMsg)
    (h : (decCMsg c).run bs = .ok (m, r)) : m.WF := (decCMsg_sat c bs).of_ok h

theorem decoded_mempool_message_wellformed (c : Bool) (bs r : List UInt8) (m : MMsg)
    (h : (decMMsg c).run bs = .ok (m, r)) : m.WF := (decMMsg_sat c bs).of_ok h

theorem decoded_block_wellformed (c : Bool) (bs r : List UInt8) (b : Block)
    (h : (decBlock c).run bs = .ok (b, r)) : b.WF := (decBlock_sat c bs).of_ok h

/-- Re-serialising a received message and reading it again is the identity (relaying, storing and
re-sending never alters a message), whatever bytes it originally came from. -/
theorem reencode_received (c : Bool) (bs r : List UInt8) (m : CMsg) (h : (decCMsg c).run bs = .ok (m, r)) :
    (decCMsg c).run (encCMsg m) = .ok (m, []) :=
  (decCMsg_enc c (decoded_consensus_message_wellformed c bs r m h)).run

/-- Two blocks received from the wire / read from the store (from arbitrary bytes) that have the same
digest agree on author, round, payload and parent — or exhibit a hash collision. -/
theorem received_blocks_digest_binds (H : List UInt8 → List UInt8) (c : Bool) (bs bs' r r' : List UInt8)
    (b b' : Block) (h : (decBlock c).run bs = .ok (b, r)) (h' : (decBlock c).run bs' = .ok (b', r'))
    (e : H b.pre = H b'.pre) :
    (b.author = b'.author ∧ b.round = b'.round ∧ b.payload = b'.payload ∧ b.qc.hash = b'.qc.hash)
    ∨ Collision H b.pre b'.pre :=
  block_digest_binds H b b' (.of_wf (decoded_block_wellformed c bs r b h))
    (.of_wf (decoded_block_wellformed c bs' r' b' h')) e

/-- A concrete block with a TC, a non-empty payload and a QC with one vote is well-formed (so the
round-trip theorems apply to it), its pre-image has the stated length. -/
example :
    let k : List UInt8 := List.replicate 32 7
    let d : List UInt8 := List.replicate 32 9
    let s : Sig := ⟨List.replicate 32 1, List.replicate 32 2⟩
    let b : Block := ⟨⟨d, 3, [(k, s)]⟩, some ⟨4, [(k, s, 2)]⟩, k, 5, [d, k], s⟩
    b.WF ∧ BlockFieldsWF b ∧ b.pre.length = 72 + 32 * 2 := by
  -- `+kernel`: a closed term, evaluated by the kernel alone (the elaborator's own evaluation is slow)
  decide +kernel

/-- A small frame evaluated through the model (not through the theorem): a `SyncRequest` with trailing
bytes decodes to the request and leaves the trailing bytes. -/
example :
    let k : List UInt8 := List.replicate 32 7
    let d : List UInt8 := List.replicate 32 9
    (CMsg.syncRequest d k).WF ∧
    (decCMsg false).run (encCMsg (.syncRequest d k) ++ [1, 2, 3]) = .ok (.syncRequest d k, [1, 2, 3]) := by
  decide +kernel

/-- Boundary-adjacent pair: moving a digest from the end of the payload into the parent slot changes
the pre-image (here even its length), as the injectivity theorem says. -/
example :
    let d1 : List UInt8 := List.replicate 32 1
    let d2 : List UInt8 := List.replicate 32 2
    let p : List UInt8 := List.replicate 32 3
    blockPre d1 0 [d1, d2] p ≠ blockPre d1 0 [d1] d2 ∧ blockPre d1 0 [d1] d2 ≠ blockPre d1 0 [d2] d1 := by
  decide +kernel

end HS.C20
