import HotstuffModel.Proofs.Reachable
import HotstuffModel.Proofs.GlobalCommit
/-!
# C02 — Each node delivers committed blocks exactly once, in chain order

What ONE node guarantees on its own, for EVERY event list (any chain shape, any learning order):
the genesis placeholder is never delivered; each call of `commit` delivers a parent-linked run of
stored blocks, oldest first, ending in the head of the 2-chain, every one above the watermark
`last_committed_round` as it was before the call; the run attaches at the watermark (its first
block has round watermark+1, or its parent is at or below the watermark); the watermark only grows.
That the attachment point IS the previously delivered block, and that rounds grow along the chain —
hence no duplicates and no skipped block over the whole life of the node — needs agreement among
the honest nodes (certified blocks extend each other: `HS.C01.agreement`).  That composition is the
second half of this file: `delivery_log_is_chain_from_genesis` and its corollaries, for every
reachable state of the global model (any number of Byzantine nodes of total stake ≤ f, any schedule).
On the real code the same is checked by the monitor of the cons/netsim engines.
-/
namespace HS.C02
open HS Node

/-- The genesis placeholder (round 0) is never delivered. -/
theorem genesis_never_delivered (c : Committee) (name : Nat) (hd : Deploy c name) (es : List Event)
    (x : Block) (hx : Out.commit x ∈ (run c (init c name) es).hist) :
    0 < x.round ∧ x ≠ Block.genesis := by
  have := ((reachable_inv5 c name hd rfl es).commits x hx).1
  refine ⟨this, ?_⟩
  intro e; subst e; simp [Block.genesis] at this

/-- One call of `commit(b)` in any reachable state: the deliveries `D` (oldest first) are appended
to the commit channel in that order, are parent-linked, end in `b`, lie strictly above the old
watermark, never contain genesis, attach at the watermark, and move the watermark to `b.round`. -/
theorem commit_call_delivers_linked_chain (c : Committee) (name : Nat) (hd : Deploy c name)
    (es : List Event) (b : Block)
    (hb : b = Block.genesis ∨ ∃ d, (d, b) ∈ (run c (init c name) es).store)
    (hlt : (run c (init c name) es).lastCommitted < b.round)
    (hok : (commit c (run c (init c name) es) b).2 = true) :
    let s := run c (init c name) es
    ∃ D : List Block,
      (commit c s b).1.hist = (D.reverse.map Out.commit) ++ s.hist ∧
      (commit c s b).1.lastCommitted = b.round ∧
      Linked D ∧ D.getLast? = some b ∧
      (∀ x ∈ D, s.lastCommitted < x.round ∧ x ≠ Block.genesis) ∧
      ∃ first rest, D = first :: rest ∧
        (first.round = s.lastCommitted + 1 ∨ ∃ p, IsParent p first ∧ p.round ≤ s.lastCommitted) := by
  intro s
  have h4 := reachable_inv4 c name hd rfl es
  rcases commit_stored c s h4 b hb with ⟨hle, _⟩ | ⟨anc, _, hw, e⟩
  · exact absurd hlt (Nat.not_lt_of_le hle)
  · obtain ⟨linked, good, attach⟩ := deliver_spec c s h4.keyed b anc hb hlt hw
    rw [e, deliver_eq]
    exact ⟨anc.reverse ++ [b], rfl, rfl, linked, by simp,
      fun x hx => (good x hx).above, attach⟩

/-- A block at or below the watermark is never delivered again by `commit`. -/
theorem commit_at_or_below_watermark_is_noop (c : Committee) (s : Node) (b : Block)
    (h : b.round ≤ s.lastCommitted) : commit c s b = (s, true) := by
  unfold commit; simp [h]

/-- The watermark never decreases. -/
theorem watermark_monotone (c : Committee) (s : Node) (es : List Event) :
    s.lastCommitted ≤ (run c s es).lastCommitted := (ext_run c s es).lastCommitted

/-- The commit channel is append-only: deliveries are never retracted or reordered. -/
theorem deliveries_append_only (c : Committee) (s : Node) (es : List Event) :
    ∃ new, (run c s es).hist = new ++ s.hist := by
  obtain ⟨new, h, _⟩ := (ext_run c s es).hist
  exact ⟨new, h⟩

/-- Non-vacuity (the chain shape that broke the code before the `fix:` commit 9270584): rounds
2, 3, 4 on top of genesis — round 1 timed out, block 2 carries a TC — deliver exactly block 2,
not genesis. -/
example :
    let c : Committee := ⟨[(1, 1), (2, 1), (3, 1), (4, 1)]⟩
    let tc : TC := { round := 1, votes := [(1, ⟨1, .timeout 1 0⟩, 0), (2, ⟨2, .timeout 1 0⟩, 0), (3, ⟨3, .timeout 1 0⟩, 0)] }
    let mk (a r : Nat) (q : QC) (t : Option TC) : Block :=
      { qc := q, tc := t, author := a, round := r, payload := [], sig := ⟨a, .block (.block a r [] q.hash)⟩ }
    let cert (b : Block) : QC :=
      { hash := b.digest, round := b.round, votes := [(1, ⟨1, .vote b.digest b.round⟩), (2, ⟨2, .vote b.digest b.round⟩), (3, ⟨3, .vote b.digest b.round⟩)] }
    let b2 := mk 3 2 QC.genesis (some tc)
    let b3 := mk 4 3 (cert b2) none
    let b4 := mk 1 4 (cert b3) none
    let s := run c (init c 2) [.msg (.propose b2), .msg (.propose b3), .msg (.propose b4)]
    s.hist.filter Out.isCommitOut = [.commit b2] ∧ s.lastCommitted = 2 := by
  decide

/-! ## The whole life of a node (global model) -/

/-- **C02.**  In every reachable state of the global model, the delivery log of every honest node,
read oldest first, is its committed chain from genesis: the first delivered block's parent is the
genesis placeholder, and each later block's parent is the block delivered immediately before it
(`Linked`: `y.qc.hash = x.digest` for consecutive `x, y`). -/
theorem delivery_log_is_chain_from_genesis (X : World) (G : GState) (hR : Reach X G)
    (i : Nat) (hi : X.honest i) : ChainFromGenesis (commitsOf (G i).hist).reverse :=
  (reach_goodLog X G hR i hi).chain

/-- The watermark `last_committed_round` is the round of the newest delivery (0 before the first). -/
theorem watermark_is_last_delivery (X : World) (G : GState) (hR : Reach X G)
    (i : Nat) (hi : X.honest i) :
    (G i).lastCommitted = ((commitsOf (G i).hist).head?.map (·.round)).getD 0 :=
  (reach_goodLog X G hR i hi).watermark

/-- No block is delivered twice and deliveries come in strictly increasing round order. -/
theorem deliveries_strictly_increasing_no_duplicates (X : World) (G : GState) (hR : Reach X G)
    (i : Nat) (hi : X.honest i) :
    (commitsOf (G i).hist).reverse.Pairwise (fun x y => x.round < y.round) ∧
    (commitsOf (G i).hist).Nodup := by
  -- a delivered block is certified, and a certified block is above its parent
  have hp := linked_rounds_increase (delivery_log_is_chain_from_genesis X G hR i hi).linked
    fun x hx => (Abs.certified_parent (reach_localInv X G hR) (delivered_is_certified X G hR i hi x
      (mem_commitsOf.mp (List.mem_reverse.mp hx)))).1
  refine ⟨hp, (List.pairwise_reverse.mp hp).imp ?_⟩
  rintro a _ h rfl
  exact Nat.lt_irrefl _ h

/-- All honest nodes deliver the SAME sequence: their delivery logs (by block digest, oldest
first) are prefixes of one another in every reachable global state. -/
theorem delivery_logs_prefix_consistent (X : World) (G : GState) (hR : Reach X G) (i j : Nat)
    (hi : X.honest i) (hj : X.honest j) :
    (commitsOf (G i).hist).reverse.map Block.digest <+: (commitsOf (G j).hist).reverse.map Block.digest ∨
    (commitsOf (G j).hist).reverse.map Block.digest <+: (commitsOf (G i).hist).reverse.map Block.digest := by
  have ci := (reach_goodLog X G hR i hi).chain
  have cj := (reach_goodLog X G hR j hj).chain
  cases hx : commitsOf (G i).hist with
  | nil => exact .inl List.nil_prefix
  | cons x _ =>
    cases hy : commitsOf (G j).hist with
    | nil => exact .inr List.nil_prefix
    | cons y _ =>
      -- each log, newest first, is the hash chain of its newest delivery (`ChainFromGenesis.chain`):
      -- the claim becomes `x.digest.chain <:+ y.digest.chain ∨ y.digest.chain <:+ x.digest.chain`
      -- (`← hx`, `← hy` put the logs back in the form the chain facts `ci`, `cj` speak of)
      rw [← List.reverse_suffix, ← List.reverse_suffix, ← hx, ← hy,
        ← ci.chain (b := x) (by rw [List.getLast?_reverse, hx]; rfl),
        ← cj.chain (b := y) (by rw [List.getLast?_reverse, hy]; rfl)]
      exact (C01.agreement X G hR j i hj hi y x (mem_commitsOf.mp (hy ▸ .head _))
        (mem_commitsOf.mp (hx ▸ .head _))).imp chain_suffix chain_suffix

end HS.C02
