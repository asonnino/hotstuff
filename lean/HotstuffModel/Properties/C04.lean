import HotstuffModel.Proofs.Verify
import HotstuffModel.Model.Node
/-!
# C04 — Only correctly signed, quorum-backed messages influence a node

Signatures are ideal (DESIGN §3.4): a signature token verifies exactly for the key and the content
it was produced over; ed25519 itself is modelled, not verified.  Which fields a digest covers is
proved at byte level in C20; here `Block.digest` covers author, round, payload and parent,
`Vote`/`QC` cover (hash, round), `Timeout`/TC entries cover (round, high-QC round).
NOT under the author's signature (and constrained only by their own certificates): a block's
`qc.round`, the QC's vote list and the TC; a timeout's `high_qc.hash` and vote list.
-/
namespace HS.C04
open HS Node

/-! ### (1) acceptance implies well-formedness -/

/-- An accepted QC carries distinct committee members with stake, whose stake reaches the quorum,
and every signature in it verifies under the claimed member's key for exactly (hash, round). -/
theorem qc_accept_wellformed (c : Committee) (q : QC) (h : q.verify c = .ok ()) :
    q.signers.Nodup ∧ (∀ x ∈ q.signers, x ∈ c.keys ∧ 0 < c.stake x) ∧
    c.quorum ≤ c.weight q.signers ∧
    ∀ v ∈ q.votes, v.2.signer = v.1 ∧ v.2.content = .vote q.hash q.round :=
  have ⟨nodup, staked, quorum, sigs⟩ := (QC.verify_ok_iff c q).mp h
  ⟨nodup, fun x hx => ⟨stake_ne_zero_mem c x (staked x hx), Nat.pos_of_ne_zero (staked x hx)⟩, quorum,
    fun v hv => Sig.valid_iff.mp (sigs v hv)⟩

/-- The same for timeout certificates; each entry is signed for (round, its reported high-QC round). -/
theorem tc_accept_wellformed (c : Committee) (t : TC) (h : t.verify c = .ok ()) :
    t.signers.Nodup ∧ (∀ x ∈ t.signers, x ∈ c.keys ∧ 0 < c.stake x) ∧
    c.quorum ≤ c.weight t.signers ∧
    ∀ v ∈ t.votes, v.2.1.signer = v.1 ∧ v.2.1.content = .timeout t.round v.2.2 :=
  have ⟨nodup, staked, quorum, sigs⟩ := (TC.verify_ok_iff c t).mp h
  ⟨nodup, fun x hx => ⟨stake_ne_zero_mem c x (staked x hx), Nat.pos_of_ne_zero (staked x hx)⟩, quorum,
    fun v hv => Sig.valid_iff.mp (sigs v hv)⟩

/-- An accepted proposal is signed by its author (a staked member) over its own digest, its QC is
the genesis QC or an accepted QC, and its TC (if any) is an accepted TC. -/
theorem block_accept_wellformed (c : Committee) (b : Block) (h : b.verify c = .ok ()) :
    0 < c.stake b.author ∧ b.sig.signer = b.author ∧ b.sig.content = .block b.digest ∧
    (b.qc.isGenesis = true ∨ b.qc.verify c = .ok ()) ∧ (∀ tc, b.tc = some tc → tc.verify c = .ok ()) :=
  have ⟨staked, sig, qc, tc⟩ := (Block.verify_ok_iff c b).mp h
  ⟨Nat.pos_of_ne_zero staked, (Sig.valid_iff.mp sig).1, (Sig.valid_iff.mp sig).2, qc, tc⟩

theorem vote_accept_wellformed (c : Committee) (v : Vote) (h : v.verify c = .ok ()) :
    0 < c.stake v.author ∧ v.sig.signer = v.author ∧ v.sig.content = .vote v.hash v.round :=
  have ⟨staked, sig⟩ := (Vote.verify_ok_iff c v).mp h
  ⟨Nat.pos_of_ne_zero staked, Sig.valid_iff.mp sig⟩

theorem timeout_accept_wellformed (c : Committee) (t : Timeout) (h : t.verify c = .ok ()) :
    0 < c.stake t.author ∧ t.sig.signer = t.author ∧ t.sig.content = .timeout t.round t.highQC.round ∧
    (t.highQC.isGenesis = true ∨ t.highQC.verify c = .ok ()) :=
  have ⟨staked, sig, qc⟩ := (Timeout.verify_ok_iff c t).mp h
  ⟨Nat.pos_of_ne_zero staked, (Sig.valid_iff.mp sig).1, (Sig.valid_iff.mp sig).2, qc⟩

/-! ### (2) tampering implies rejection -/

/-- A signature verifies for one key and one content only: it cannot be moved to another message,
round, block, or message type, nor attributed to another member. -/
theorem signature_not_transferable (s : Sig) (c c' : Content) (k k' : Nat)
    (h : s.valid c k = true) (hne : c' ≠ c ∨ k' ≠ k) : s.valid c' k' = false :=
  Bool.eq_false_iff.mpr fun h' => hne.elim (· (Sig.valid_inj h h').1) (· (Sig.valid_inj h h').2)

/-- Altering any signed field of a proposal (author, round, payload, parent) while keeping the
signature makes it be rejected. -/
theorem block_tamper_rejected (c : Committee) (b b' : Block) (h : b.verify c = .ok ())
    (hs : b'.sig = b.sig) (hd : b'.digest ≠ b.digest ∨ b'.author ≠ b.author) :
    b'.verify c ≠ .ok () := fun h' =>
  have ⟨e, ea⟩ := Sig.valid_inj ((Block.verify_ok_iff c b).mp h).2.1
    (hs ▸ ((Block.verify_ok_iff c b').mp h').2.1)
  hd.elim (· (Content.block.inj e)) (· ea)

/-- A vote signature moved to another block hash, round, or author is rejected. -/
theorem vote_tamper_rejected (c : Committee) (v v' : Vote) (h : v.verify c = .ok ())
    (hs : v'.sig = v.sig) (hd : v'.hash ≠ v.hash ∨ v'.round ≠ v.round ∨ v'.author ≠ v.author) :
    v'.verify c ≠ .ok () := fun h' =>
  have ⟨e, ea⟩ := Sig.valid_inj ((Vote.verify_ok_iff c v).mp h).2 (hs ▸ ((Vote.verify_ok_iff c v').mp h').2)
  hd.elim (· (Content.vote.inj e).1) (·.elim (· (Content.vote.inj e).2) (· ea))

/-- A timeout signature moved to another round, another high-QC round, or another author is rejected. -/
theorem timeout_tamper_rejected (c : Committee) (t t' : Timeout) (h : t.verify c = .ok ())
    (hs : t'.sig = t.sig)
    (hd : t'.round ≠ t.round ∨ t'.highQC.round ≠ t.highQC.round ∨ t'.author ≠ t.author) :
    t'.verify c ≠ .ok () := fun h' =>
  have ⟨e, ea⟩ := Sig.valid_inj ((Timeout.verify_ok_iff c t).mp h).2.1
    (hs ▸ ((Timeout.verify_ok_iff c t').mp h').2.1)
  hd.elim (· (Content.timeout.inj e).1) (·.elim (· (Content.timeout.inj e).2) (· ea))

/-- A QC with a repeated signer, a signer without stake (non-member or zero-stake member),
less than quorum weight, or one signature for another (hash, round) / of another kind is rejected. -/
theorem qc_defect_rejected (c : Committee) (q : QC)
    (hd : ¬ q.signers.Nodup ∨ (∃ x ∈ q.signers, c.stake x = 0) ∨ c.weight q.signers < c.quorum ∨
      (∃ v ∈ q.votes, v.2.signer ≠ v.1 ∨ v.2.content ≠ .vote q.hash q.round)) :
    q.verify c ≠ .ok () := fun h => by
  obtain ⟨nodup, staked, quorum, sigs⟩ := (QC.verify_ok_iff c q).mp h
  rcases hd with hd | ⟨x, hx, hs⟩ | hd | ⟨v, hv, hd⟩
  · exact hd nodup
  · exact staked x hx hs
  · exact Nat.not_le_of_lt hd quorum
  · exact hd.elim (· (Sig.valid_iff.mp (sigs v hv)).1) (· (Sig.valid_iff.mp (sigs v hv)).2)

theorem tc_defect_rejected (c : Committee) (t : TC)
    (hd : ¬ t.signers.Nodup ∨ (∃ x ∈ t.signers, c.stake x = 0) ∨ c.weight t.signers < c.quorum ∨
      (∃ v ∈ t.votes, v.2.1.signer ≠ v.1 ∨ v.2.1.content ≠ .timeout t.round v.2.2)) :
    t.verify c ≠ .ok () := fun h => by
  obtain ⟨nodup, staked, quorum, sigs⟩ := (TC.verify_ok_iff c t).mp h
  rcases hd with hd | ⟨x, hx, hs⟩ | hd | ⟨v, hv, hd⟩
  · exact hd nodup
  · exact staked x hx hs
  · exact Nat.not_le_of_lt hd quorum
  · exact hd.elim (· (Sig.valid_iff.mp (sigs v hv)).1) (· (Sig.valid_iff.mp (sigs v hv)).2)

/-- A block whose embedded (non-genesis) QC or TC is defective is rejected as a whole. -/
theorem block_with_bad_certificate_rejected (c : Committee) (b : Block)
    (hd : (b.qc.isGenesis = false ∧ b.qc.verify c ≠ .ok ()) ∨ (∃ tc, b.tc = some tc ∧ tc.verify c ≠ .ok ())) :
    b.verify c ≠ .ok () := fun h => by
  obtain ⟨-, -, qc, tcs⟩ := (Block.verify_ok_iff c b).mp h
  rcases hd with ⟨hg, hq⟩ | ⟨tc, htc, hq⟩
  · exact qc.elim (fun h => by rw [hg] at h; cases h) hq
  · exact hq (tcs tc htc)

/-! ### (3) a rejected message changes nothing -/

/-- A proposal that is not by the round's leader, or does not verify, leaves the node in
literally the same state (ghost history included) and produces no output. -/
theorem rejected_proposal_no_effect (c : Committee) (s : Node) (b : Block)
    (h : b.author ≠ c.leader b.round ∨ b.verify c ≠ .ok ()) :
    step c s (.msg (.propose b)) = s := by
  have : s.handleProposal c b = s := by
    rcases h with h | h
    · simp only [handleProposal, bne_iff_ne.mpr h, if_true]
    · obtain ⟨e, he⟩ := ne_ok_iff.mp h
      simp only [handleProposal, he, ite_self]
  simp only [step, this, ite_self]

theorem rejected_vote_no_effect (c : Committee) (s : Node) (v : Vote) (h : v.verify c ≠ .ok ()) :
    step c s (.msg (.vote v)) = s := by
  obtain ⟨e, he⟩ := ne_ok_iff.mp h
  simp only [step, handleVote, he, ite_self]

theorem rejected_timeout_no_effect (c : Committee) (s : Node) (t : Timeout) (h : t.verify c ≠ .ok ()) :
    step c s (.msg (.timeout t)) = s := by
  obtain ⟨e, he⟩ := ne_ok_iff.mp h
  simp only [step, handleTimeout, he, ite_self]

theorem rejected_tc_no_effect (c : Committee) (s : Node) (t : TC) (h : t.verify c ≠ .ok ()) :
    step c s (.msg (.tc t)) = s := by
  obtain ⟨e, he⟩ := ne_ok_iff.mp h
  simp only [step, handleTC, he, ite_self]

/-- Hence the node's whole subsequent behaviour is the same with and without the rejected message. -/
theorem rejected_message_subsequent_behaviour_unchanged (c : Committee) (s : Node) (e : Event)
    (es : List Event) (h : step c s e = s) : run c s (e :: es) = run c s es := by
  simp [run, h]

/-- Non-vacuity: a QC signed by three of four equal members verifies; dropping one signer,
repeating one, or using a vote signature for another round does not. -/
example :
    let c : Committee := ⟨[(1, 1), (2, 1), (3, 1), (4, 1)]⟩
    let d : Digest := .block 2 1 [] .zero
    let sg (k r : Nat) : Nat × Sig := (k, ⟨k, .vote d r⟩)
    (QC.verify c ⟨d, 1, [sg 1 1, sg 2 1, sg 4 1]⟩).toBool = true ∧
    (QC.verify c ⟨d, 1, [sg 1 1, sg 2 1]⟩).toBool = false ∧
    (QC.verify c ⟨d, 1, [sg 1 1, sg 2 1, sg 2 1]⟩).toBool = false ∧
    (QC.verify c ⟨d, 1, [sg 1 1, sg 2 1, sg 4 2]⟩).toBool = false ∧
    (QC.verify c ⟨d, 1, [sg 1 1, sg 2 1, sg 9 1]⟩).toBool = false := by
  decide

end HS.C04
