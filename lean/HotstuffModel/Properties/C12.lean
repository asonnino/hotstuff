import HotstuffModel.Proofs.QuorumWaiter
import HotstuffModel.Proofs.Lists
import HotstuffModel.Properties.C17
/-!
# C12 — A node's own batch is proposed only after a quorum acknowledged it

Model: `HS.QW` (`Model/QuorumWaiter.lean`).  `outputs cfg init es` is everything the task emits
over the event list `es` (batches arriving with their handler lists, handlers completing in any
order, for the batch being served or for batches still queued).  `forward id ack` = the batch is
handed to the processor (which stores it and announces its digest to consensus); `ack` (ghost) are
the names of the handlers that had been counted.  All theorems hold for every configuration
`cfg` (own stake, threshold, stake function) unless a committee is named, and every event order.

**Dropped handle = ACK.**  The code does `let _ = wait_for.await`, so a cancel handler whose
sender was dropped counts like an acknowledgement (`dropped_counts_like_ack`).  "Acknowledged" in
the theorems below therefore means "the handler completed"; it means "the peer sent an ACK" only
together with C14's guarantee that the reliable sender never drops the sending half of a handle
whose receiver is alive (then no `complete _ _ false` event occurs).
-/
namespace HS.C12
open HS HS.QW HS.Q

/-- Faithful to `let _ = wait_for.await`: whether a handler completed with an ACK or because its
sender was dropped makes no difference to the task. -/
theorem dropped_counts_like_ack (cfg : Cfg) (s : State) (id i : Nat) :
    step cfg s (.complete id i false) = step cfg s (.complete id i true) := rfl

/-- Never before a quorum: whenever a batch is forwarded, own stake plus the stake of the counted
handlers is at least the threshold. -/
theorem forward_only_with_quorum (cfg : Cfg) (es : List Ev) (id : Nat) (ack : List Nat)
    (h : Out.forward id ack ∈ outputs cfg init es) :
    cfg.q ≤ cfg.own + weight cfg.stakeOf ack := by
  obtain ⟨pre, e, _, _, h'⟩ := mem_outputs h
  obtain ⟨b, _, hl, hc⟩ := forward_backed cfg pre e id ack h'
  exact counted_quorum hc (linked_stakes hl)

/-- The counted handlers are real: every name in `ack` is the name at position `i` of the handler
list that arrived with this batch id, and a completion event for `(id, i)` happened in this step
or earlier.  (`pre` = events before the step, `e` = the event of the step.) -/
theorem forward_ackers_completed (cfg : Cfg) (pre : List Ev) (e : Ev) (id : Nat) (ack : List Nat)
    (h : Out.forward id ack ∈ (step cfg (run cfg init pre) e).2) :
    ∀ n ∈ ack, ∃ names i a, Ev.batch id names ∈ pre ++ [e] ∧ names[i]? = some n ∧
      Ev.complete id i a ∈ pre ++ [e] := by
  obtain ⟨b, rfl, hl, hc⟩ := forward_backed cfg pre e id ack h
  exact linked_ackers hl (counted_sublist hc)

/-- With handler lists as `BatchMaker::seal` builds them (from `Committee::broadcast_addresses`:
distinct committee members other than the node itself), the counted authorities are distinct
committee members other than the node itself — so "own + Σ stake" counts nobody twice. -/
theorem forward_ackers_distinct (cfg : Cfg) (es : List Ev) (self : Nat) (members : List Nat)
    (hes : ∀ id names, Ev.batch id names ∈ es →
      names.Nodup ∧ self ∉ names ∧ ∀ n ∈ names, n ∈ members)
    (id : Nat) (ack : List Nat) (h : Out.forward id ack ∈ outputs cfg init es) :
    ack.Nodup ∧ self ∉ ack ∧ ∀ n ∈ ack, n ∈ members := by
  obtain ⟨pre, e, post, rfl, h'⟩ := mem_outputs h
  obtain ⟨b, _, ⟨names, arrived, namesEq, _⟩, counted⟩ := forward_backed cfg pre e id ack h'
  have hsub : ack.Sublist names := namesEq ▸ (counted_sublist counted).trans (ackers_sublist_names b.hs)
  obtain ⟨nodup, notSelf, inMembers⟩ := hes b.id names (List.mem_append_left post arrived)
  exact ⟨nodup.sublist hsub, fun hm => notSelf (hsub.subset hm), fun n hn => inMembers n (hsub.subset hn)⟩

/-- Strictly one at a time, in arrival order: the ids of the finished batches (forwarded or given
up), then the batch being served, then the queue, are exactly the arrival sequence. -/
theorem served_in_arrival_order (cfg : Cfg) (es : List Ev) :
    (outputs cfg init es).map Out.id ++ (held (run cfg init es)).map (·.id) = arrivals es :=
  fifo_run cfg init es (waiting_init cfg)

/-- FIFO: batches are forwarded in the order in which they arrived. -/
theorem forward_fifo (cfg : Cfg) (es : List Ev) :
    (((outputs cfg init es).filter Out.isForward).map Out.id).Sublist (arrivals es) := by
  rw [← served_in_arrival_order cfg es]
  exact (List.filter_sublist.map _).trans (List.sublist_append_left _ _)

/-- At most once: with distinct batch ids, no batch is finished (hence forwarded) twice. -/
theorem forward_at_most_once (cfg : Cfg) (es : List Ev) (hn : (arrivals es).Nodup) :
    ((outputs cfg init es).map Out.id).Nodup ∧
    (((outputs cfg init es).filter Out.isForward).map Out.id).Nodup := by
  have h := served_in_arrival_order cfg es
  have h1 : ((outputs cfg init es).map Out.id).Nodup :=
    hn.sublist (h ▸ List.sublist_append_left _ _)
  exact ⟨h1, h1.sublist (List.filter_sublist.map _)⟩

/-- A batch all of whose handlers completed without reaching the threshold is dropped silently:
it is never forwarded (distinct batch ids). -/
theorem given_up_never_forwarded (cfg : Cfg) (es : List Ev) (hn : (arrivals es).Nodup) (id : Nat)
    (hg : Out.gaveUp id ∈ outputs cfg init es) (ack : List Nat) :
    Out.forward id ack ∉ outputs cfg init es := by
  intro hf
  -- outputs with the same batch id are the same output
  have h1 := List.pairwise_map.1 (forward_at_most_once cfg es hn).1
  cases eq_of_pairwise_ne h1 hg hf rfl

/-- While a batch is being served and not yet forwarded, the accumulated stake is consistent with
the completed handlers and is below the threshold — or nothing has been counted yet (the code
tests the threshold only after a completion, so a node whose own stake is a quorum still waits
for the first one).  When own stake is below the threshold the total simply is below it. -/
theorem pending_below_threshold (cfg : Cfg) (es : List Ev) (c : Cur)
    (h : (run cfg init es).cur = some c) :
    c.total = cfg.own + doneStake c.hs ∧ (c.total < cfg.q ∨ ackers c.hs = []) ∧
    (cfg.own < cfg.q → c.total < cfg.q) := by
  obtain ⟨h1, h2, _, _⟩ := (inv_run cfg init es (inv_init cfg)).1 c h
  refine ⟨h1, h2, fun ho => h2.elim id fun h2 => ?_⟩
  rw [h1, ackers_nil_doneStake _ h2]
  exact ho

/-- Exactly at the crossing step: the completion that lifts the accumulated stake of the batch
being served to the threshold emits the forward in that very step (first output of the step),
with exactly the handlers counted so far; a completion that does not reach it emits nothing for
this batch and the batch stays in service (unless every handler has now completed). -/
theorem forward_at_crossing_step (cfg : Cfg) (s : State) (c : Cur) (i : Nat) (a : Bool)
    (h : H) (hs' : List H) (hc : s.cur = some c) (hm : mark i c.hs = some (h, hs')) :
    (cfg.q ≤ c.total + h.stake →
      (step cfg s (.complete c.id i a)).2.head? = some (Out.forward c.id (ackers hs'))) ∧
    (c.total + h.stake < cfg.q → hs'.all (·.done) = false →
      step cfg s (.complete c.id i a) = (⟨some ⟨c.id, c.total + h.stake, hs'⟩, s.queue⟩, [])) := by
  refine ⟨fun hq => ?_, fun hq hall => ?_⟩
  · simp only [step, hc, hm, hq, ↓reduceIte, List.head?_cons]
  · simp only [step, hc, hm, Nat.not_le.2 hq, hall, ↓reduceIte, Bool.false_eq_true]

/-- The second sentence of C12.  Committee `c` with total stake `1 ≤ n < 2^31`, this node `self`
with its committee stake, handler lists built from the committee (distinct members other than
self), Byzantine stake at most `f = ⌊(n−1)/3⌋`: whenever a batch is forwarded, the *honest*
authorities among the acknowledgers plus self hold at least `f + 1` stake (in fact `q − f`). -/
theorem forwarded_batch_held_by_honest_stake (c : Committee) (self : Nat)
    (bad : Nat → Bool) (es : List Ev)
    (hn1 : 1 ≤ c.total) (hn2 : c.total < 2 ^ 31) (hself : self ∈ c.keys)
    (hes : ∀ id names, Ev.batch id names ∈ es →
      names.Nodup ∧ self ∉ names ∧ ∀ n ∈ names, n ∈ c.keys)
    (hbad : weight c.stakeMempool (c.keys.filter bad) ≤ C17.f c.total)
    (id : Nat) (ack : List Nat)
    (h : Out.forward id ack ∈ outputs (Cfg.ofCommittee c (c.stakeMempool self)) init es) :
    C17.f c.total + 1 ≤ weight c.stakeMempool ((self :: ack).filter (fun x => !bad x)) ∧
    c.quorumMempool - C17.f c.total ≤ weight c.stakeMempool ((self :: ack).filter (fun x => !bad x)) := by
  have hq : c.quorumMempool ≤ weight c.stakeMempool (self :: ack) :=
    forward_only_with_quorum _ es id ack h
  obtain ⟨d1, d2, d3⟩ := forward_ackers_distinct _ es self c.keys hes id ack h
  -- the Byzantine part of `self :: ack` weighs at most `f`
  have hle := weight_le_of_subset c.stakeMempool ((self :: ack).filter bad) (c.keys.filter bad)
    ((List.nodup_cons.2 ⟨d2, d1⟩).filter _) fun x hx =>
      List.mem_filter.2 ⟨List.forall_mem_cons.2 ⟨hself, d3⟩ x (List.mem_filter.1 hx).1,
        (List.mem_filter.1 hx).2⟩
  rw [weight_filter_split _ bad] at hq
  -- `3q > 2n` and `3f ≤ n` give `2f + 1 ≤ q`
  have h3 : 3 * C17.f c.total ≤ c.total := Nat.le_trans (Nat.mul_div_le _ _) (Nat.sub_le _ _)
  have hb : 3 * c.quorumMempool > 2 * c.total := (C17.threshold_bounds_mempool c.total hn1 hn2).1
  omega

/-- Non-vacuity: four equal authorities (threshold 3), node 1 serving two batches; batch 8's first
handler completes while batch 8 is still queued, batch 7 is forwarded exactly when the second of
its handlers completes (one of them a dropped handle), then batch 8 needs one more completion. -/
example :
    let c : Committee := ⟨[(1, 1), (2, 1), (3, 1), (4, 1)]⟩
    let cfg := Cfg.ofCommittee c (c.stakeMempool 1)
    cfg.q = 3 ∧
    trace cfg init [.batch 7 [2, 3, 4], .batch 8 [2, 3, 4], .complete 8 0 true, .complete 7 2 false,
        .complete 7 2 true, .complete 7 1 true, .complete 7 0 true, .complete 8 2 true]
      = [[], [], [], [], [], [.forward 7 [3, 4]], [], [.forward 8 [2, 4]]] := by
  decide

/-- Non-vacuity for the "own stake is a quorum" corner: a dominant authority still waits for the
first completion, and a batch without handlers is never forwarded. -/
example :
    let c : Committee := ⟨[(1, 5), (2, 1), (3, 1)]⟩
    let cfg := Cfg.ofCommittee c (c.stakeMempool 1)
    cfg.q = 5 ∧
    trace cfg init [.batch 1 [2, 3], .batch 2 [], .complete 1 1 true]
      = [[], [], [.forward 1 [3], .gaveUp 2]] := by
  decide

end HS.C12
