import HotstuffModel.Proofs.Store
/-!
# C16 — Store: reads see the latest write; notify-reads never miss a write

Model: `HS.Store` (`Model/Store.lean`), one `step` per command dequeued by the store actor.
All theorems quantify over every command sequence (any key type with decidable equality, any
value type, any number of waiters), starting from the empty store.

`trace init cs` is the list of reply lists, one per step; `got w rs` extracts what waiter `w`
(= one `notify_read` call = one oneshot) receives in a step.  "`w` is fresh" = the waiter id is
used by one `notifyRead` only, which holds in the Rust because every call creates a new oneshot.
-/
namespace HS.C16
open HS.Store

variable {κ ν : Type} [DecidableEq κ]

/-- The specification scan `lastWrite` really is "the value of the last write to `k`":
if the sequence is `pre ++ write k v :: post` with no write to `k` in `post`, it is `some v`. -/
theorem lastWrite_spec_some (k : κ) (v : ν) (pre post : List (Cmd κ ν))
    (hpost : ∀ c ∈ post, Cmd.writes k c = false) :
    lastWrite k (pre ++ Cmd.write k v :: post) = some v := by
  rw [lastWrite, lastWriteFrom_append, lastWriteFrom, upd, if_pos rfl]
  exact lastWriteFrom_no_write _ k post hpost

/-- … and `none` if there is no write to `k` at all. -/
theorem lastWrite_spec_none (k : κ) (cs : List (Cmd κ ν))
    (h : ∀ c ∈ cs, Cmd.writes k c = false) : (lastWrite k cs : Option ν) = none :=
  lastWriteFrom_no_write none k cs h

/-- After every command sequence the stored value of every key is the value of the last write
to that key in the sequence (or nothing): writes take effect in sequence order, whichever handle
issued them, and `reopen` (which `lastWrite` ignores) loses nothing. -/
theorem kv_is_last_write (cs : List (Cmd κ ν)) (k : κ) :
    get (run (init : State κ ν) cs) k = lastWrite k cs := by
  rw [get_run]; rfl

/-- A `read k` issued after `cs` is answered in its own step with exactly one reply, the value
of the last earlier write to `k` (`none` if there was none), and changes nothing. -/
theorem read_returns_last_write (cs : List (Cmd κ ν)) (k : κ) :
    step (run (init : State κ ν) cs) (.read k)
      = (run init cs, [Reply.readReply (lastWrite k cs)]) := by
  simp only [step, kv_is_last_write]

/-- Spelled out: after `pre ++ write k v :: post` where `post` (any reads, notify-reads, writes
to other keys, reopens) does not write `k`, a read of `k` returns `v`. -/
theorem read_sees_last_write (k : κ) (v : ν) (pre post : List (Cmd κ ν))
    (hpost : ∀ c ∈ post, Cmd.writes k c = false) :
    (step (run (init : State κ ν) (pre ++ Cmd.write k v :: post)) (.read k)).2
      = [Reply.readReply (some v)] := by
  rw [read_returns_last_write, lastWrite_spec_some k v pre post hpost]

/-- A key that was never written reads as `none`. -/
theorem read_none_if_never_written (k : κ) (cs : List (Cmd κ ν))
    (h : ∀ c ∈ cs, Cmd.writes k c = false) :
    (step (run (init : State κ ν) cs) (.read k)).2 = [Reply.readReply none] := by
  rw [read_returns_last_write, lastWrite_spec_none k cs h]

/-- A write takes effect at its place in the sequence, from any state. -/
theorem write_takes_effect (s : State κ ν) (cs : List (Cmd κ ν)) (k : κ) (v : ν) :
    get (run s (cs ++ [Cmd.write k v])) k = some v := by
  rw [get_run, lastWriteFrom_append, lastWriteFrom, lastWriteFrom, upd, if_pos rfl]

/-- `reopen` keeps the data; the new actor has no obligations and nothing is answered. -/
theorem reopen_keeps_data (s : State κ ν) :
    (step s .reopen).1.kv = s.kv ∧ (∀ k, obligations (step s .reopen).1 k = []) ∧
    (step s .reopen).2 = [] := by
  simp [step, obligations]

/-- Invariant, for every command sequence: a key with pending waiters has no value. -/
theorem waiters_only_on_missing_keys (cs : List (Cmd κ ν)) (k : κ)
    (h : obligations (run (init : State κ ν) cs) k ≠ []) : get (run (init : State κ ν) cs) k = none :=
  inv_obligations _ (inv_run init cs inv_init) k h

/-- A write to `k` answers *all* waiters of `k` in that very step, in arrival order, each with
the value just written, and nothing else; afterwards `k` has no waiters and the waiters of every
other key are untouched. -/
theorem write_wakes_all_waiters_of_key (s : State κ ν) (k : κ) (v : ν) :
    (step s (.write k v)).2 = (obligations s k).map (fun w => Reply.notified w v) ∧
    obligations (step s (.write k v)).1 k = [] ∧
    ∀ k', k' ≠ k → obligations (step s (.write k v)).1 k' = obligations s k' := by
  refine ⟨rfl, ?_, fun k' hk => ?_⟩
  · simp [step, obligations, List.filter_filter]
  · simp only [step, obligations, List.filter_filter]
    congr 1
    refine List.filter_congr fun p _ => ?_
    by_cases hp : p.1 = k'
    · subst hp; simp [hk]
    · simp [hp]

/-- A `notifyRead k w` issued when `k` already has a value is answered in its own step, exactly
once over the whole run, with the current value (= the last earlier write). -/
theorem notify_answered_immediately (k : κ) (w : Nat) (v : ν) (pre post : List (Cmd κ ν))
    (hv : lastWrite k pre = some v)
    (hfresh : ∀ c ∈ pre ++ post, Cmd.usesWaiter w c = false) :
    (trace (init : State κ ν) (pre ++ Cmd.notifyRead k w :: post)).map (got w)
      = List.replicate pre.length [] ++ [v] :: List.replicate post.length [] := by
  -- `w` is not parked in `init`, nor after `pre`: silent before the `notifyRead` and after it
  obtain ⟨silentPre, notParked⟩ := unparked_trace (init : State κ ν) pre w (h := rfl)
    (fun c hc => hfresh c (List.mem_append_left _ hc))
  have hg : get (run (init : State κ ν) pre) k = some v := by rw [kv_is_last_write, hv]
  have silentPost := (unparked_trace (run (init : State κ ν) pre) post w (h := notParked)
    (fun c hc => hfresh c (List.mem_append_right _ hc))).1
  rw [trace_append, List.map_append, silentPre, trace, List.map_cons, step_notifyRead_some w hg, silentPost]
  simp [got]

/-- A `notifyRead k w` issued while `k` has no value is answered exactly in the step of the first
later `write k v` — not before, not after, exactly once over the whole run — with that write's
value, whatever else (reads, other waiters on the same key, writes to other keys) happens in
between and afterwards (later writes of other values to `k`, reopens included). -/
theorem notify_answered_by_first_later_write (k : κ) (w : Nat) (v : ν)
    (pre mid post : List (Cmd κ ν))
    (hpre : ∀ c ∈ pre, Cmd.writes k c = false)
    (hmid : ∀ c ∈ mid, Cmd.writes k c = false ∧ Cmd.isReopen c = false)
    (hfresh : ∀ c ∈ pre ++ mid ++ post, Cmd.usesWaiter w c = false) :
    (trace (init : State κ ν) (pre ++ Cmd.notifyRead k w :: (mid ++ Cmd.write k v :: post))).map (got w)
      = List.replicate pre.length [] ++ [] :: (List.replicate mid.length [] ++
          [v] :: List.replicate post.length []) := by
  obtain ⟨silentBefore, parkedOnK⟩ :=
    notify_parks k w pre mid hpre hmid (fun c hc => hfresh c (List.mem_append_left _ hc))
  -- the write un-parks `w`: silent from then on
  have silentPost :=
    (unparked_trace (step (run (init : State κ ν) (pre ++ .notifyRead k w :: mid)) (.write k v)).1
      post w (h := by simp [parked_write, parkedOnK]) (fun c hc => hfresh c (List.mem_append_right _ hc))).1
  rw [← List.cons_append, ← List.append_assoc, trace_append, List.map_append, silentBefore, trace,
    List.map_cons, silentPost, got_write, parkedOnK]
  -- `replicate (pre ++ _ :: mid).length []` is cut into the three pieces of the claim
  simp [← List.replicate_append_replicate, List.replicate_succ]

/-- Without a write to `k` a waiter on `k` is never answered (no stale or invented value), and a
`reopen` cancels it for good: nothing is ever delivered to `w`, whatever follows. -/
theorem notify_unanswered_without_write (k : κ) (w : Nat) (pre mid : List (Cmd κ ν))
    (hpre : ∀ c ∈ pre, Cmd.writes k c = false)
    (hmid : ∀ c ∈ mid, Cmd.writes k c = false ∧ Cmd.isReopen c = false)
    (hfresh : ∀ c ∈ pre ++ mid, Cmd.usesWaiter w c = false) :
    (∀ rs ∈ trace (init : State κ ν) (pre ++ Cmd.notifyRead k w :: mid), got w rs = []) ∧
    (∀ post : List (Cmd κ ν), (∀ c ∈ post, Cmd.usesWaiter w c = false) →
      ∀ rs ∈ trace (init : State κ ν) (pre ++ Cmd.notifyRead k w :: (mid ++ Cmd.reopen :: post)),
        got w rs = []) := by
  have silentBefore := (notify_parks k w pre mid hpre hmid hfresh).1
  have silent : ∀ rs ∈ trace (init : State κ ν) (pre ++ Cmd.notifyRead k w :: mid), got w rs = [] :=
    fun rs hrs => List.eq_of_mem_replicate (silentBefore ▸ List.mem_map_of_mem hrs)
  refine ⟨silent, fun post hpost rs hrs => ?_⟩
  -- nothing is parked after a `reopen`
  have silentPost :=
    (unparked_trace (step (run (init : State κ ν) (pre ++ .notifyRead k w :: mid)) .reopen).1
      post w (h := rfl) hpost).1
  rw [← List.cons_append, ← List.append_assoc, trace_append, trace, List.mem_append, List.mem_cons] at hrs
  rcases hrs with hrs | rfl | hrs
  · exact silent rs hrs
  · rfl
  · exact List.eq_of_mem_replicate (silentPost ▸ List.mem_map_of_mem hrs)

/-- Non-vacuity: two handles, three waiters on one key, an overwrite, a reopen and a stale waiter.
Waiters 1 and 2 (parked before the write) are both woken by the first write with *its* value,
waiter 3 (after the write) is answered at once with the then-current value, waiter 4 parked on
another key is cancelled by the reopen, and the data survives the reopen. -/
example :
    let cs : List (Cmd Nat Nat) :=
      [.notifyRead 7 1, .read 7, .notifyRead 7 2, .notifyRead 8 4, .write 7 100, .write 7 200,
       .notifyRead 7 3, .reopen, .write 8 5, .read 7]
    trace init cs =
      [[], [.readReply none], [], [], [.notified 1 100, .notified 2 100], [], [.notified 3 200],
       [], [], [.readReply (some 200)]] := by
  decide

end HS.C16
