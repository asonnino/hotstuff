import HotstuffModel.Proofs.BatchMaker
import HotstuffModel.Proofs.MempoolSync
import HotstuffModel.Proofs.Lists
/-!
# C11 — Batching keeps every transaction once, in order; batches are content-addressed

Model: `HS.BM` (`Model/BatchMaker.lean`).  `run cfg init es = .ok (s, bs)` says: the event list
`es` (transactions of any content incl. empty ones, timer expiries, in any order) was processed
without a panic, `bs` are the sealed batches in order and `s.cur` is the still open batch.
All theorems hold for every `batch_size` (0 included), every event sequence and both builds.

Build configurations: `cfg.benchmark` is the `benchmark` cargo feature, `cfg.lenFirst` the order of
the two tests in `seal`'s sample filter (`codeLenFirst` = what /repo has now).  For
`benchmark = false` or `lenFirst = true` there is no panic (`no_panic`), so the theorems below
apply to every run; for the benchmark build with `lenFirst = false` (the filter as it stood before
defect F2 was repaired) the property is FALSE: an empty transaction kills the task
(`benchmark_empty_tx_panics`).
-/
namespace HS.C11
open HS.BM

/-- Byte for byte, in order, exactly once: the sealed batches laid end to end, followed by the
open batch, are exactly the accepted transactions in arrival order.  (So every transaction sits
in exactly one position of exactly one batch, and nothing is invented, dropped, duplicated or
reordered.) -/
theorem sealed_batches_are_the_accepted_txs (cfg : Cfg) (es : List Ev) (s : State)
    (bs : List (List (List Nat))) (h : run cfg init es = .ok (s, bs)) :
    bs.flatten ++ s.cur = accepted es := by
  simpa [init] using (run_ok cfg init s es bs (inv_init cfg) h).2

/-- After every step the open batch is below the threshold or empty (for `batch_size = 0` it is
always empty), and `current_batch_size` is the sum of the lengths of its transactions. -/
theorem open_batch_below_threshold (cfg : Cfg) (es : List Ev) (s : State)
    (bs : List (List (List Nat))) (h : run cfg init es = .ok (s, bs)) :
    (s.cur = [] ∨ s.size < cfg.batchSize) ∧ s.size = (s.cur.map List.length).sum :=
  And.symm (run_ok cfg init s es bs (inv_init cfg) h).1

/-- As soon as the size threshold is reached: a transaction that lifts the open batch to
`batch_size` bytes or more is sealed, with everything before it, in that very step; one that does
not is appended and nothing is sealed. -/
theorem seal_when_threshold_reached (cfg : Cfg) (s s' : State) (t : List Nat)
    (outs : List (List (List Nat))) (h : step cfg s (.tx t) = .ok (s', outs)) :
    (cfg.batchSize ≤ s.size + t.length → outs = [s.cur ++ [t]] ∧ s'.cur = [] ∧ s'.size = 0) ∧
    (s.size + t.length < cfg.batchSize →
      outs = [] ∧ s'.cur = s.cur ++ [t] ∧ s'.size = s.size + t.length) := by
  simp only [step] at h
  refine ⟨?_, ?_⟩
  · intro hq
    rw [if_pos hq] at h
    obtain ⟨-, rfl, rfl⟩ := (sealBatch_eq_ok ..).mp h
    exact ⟨rfl, rfl, rfl⟩
  · intro hq
    rw [if_neg (by omega)] at h
    cases h; exact ⟨rfl, rfl, rfl⟩

/-- At every timer expiry with a non-empty open batch the whole open batch is sealed; with an
empty one nothing happens (no empty batch is ever produced by the timer). -/
theorem seal_when_timer_fires (cfg : Cfg) (s s' : State) (outs : List (List (List Nat)))
    (h : step cfg s .timer = .ok (s', outs)) :
    (s.cur ≠ [] → outs = [s.cur] ∧ s'.cur = [] ∧ s'.size = 0) ∧ (s.cur = [] → outs = [] ∧ s' = s) := by
  simp only [step] at h
  refine ⟨?_, ?_⟩
  · intro hne
    have : s.cur.isEmpty = false := by simpa using hne
    rw [this] at h
    obtain ⟨-, rfl, rfl⟩ := (sealBatch_eq_ok ..).mp h
    exact ⟨rfl, rfl, rfl⟩
  · intro he
    rw [he] at h
    cases h; exact ⟨rfl, rfl⟩

/-- A transaction is sealed by the next timer expiry at the latest: after any event sequence that
ends with a timer event, the open batch is empty and the sealed batches contain every accepted
transaction. -/
theorem sealed_by_next_timer (cfg : Cfg) (es : List Ev) (s : State) (bs : List (List (List Nat)))
    (h : run cfg init (es ++ [.timer]) = .ok (s, bs)) :
    s.cur = [] ∧ bs.flatten = accepted es := by
  have hc := sealed_batches_are_the_accepted_txs cfg _ s bs h
  obtain ⟨beforeTimer, _, _, _, lastStep, _⟩ := run_append_ok cfg init es [.timer] s bs h
  obtain ⟨afterTimer, outs, _, timerStep, rest, _⟩ := (run_cons_ok ..).mp lastStep
  cases rest  -- the run of `[]`: `afterTimer` is `s`
  have hcur : s.cur = [] := by
    obtain ⟨nonempty, empty⟩ := seal_when_timer_fires cfg beforeTimer s outs timerStep
    by_cases he : beforeTimer.cur = []
    · rw [(empty he).2]; exact he
    · exact (nonempty he).2.1
  rw [hcur, accepted_append] at hc
  exact ⟨hcur, by simpa [accepted] using hc⟩

/-- No panic in the production build, and none in the benchmark build once the filter tests the
length first: every event sequence runs to completion. -/
theorem no_panic (cfg : Cfg) (hcfg : cfg.benchmark = false ∨ cfg.lenFirst = true)
    (s : State) (es : List Ev) : ∃ r, run cfg s es = .ok r := by
  apply run_no_panic
  rcases hcfg with h | h <;> simp [scanPanics, h]

/-- The code as it is NOW: `codeLenFirst` is read from mempool/src/batch_maker.rs by the translator on
every run (Generated/Switches.lean).  No transaction sequence — empty transactions included — panics
the batch maker, in either build configuration.  (If the source tests `tx[0]` before the length this
theorem no longer type-checks and the check reports the failing input.) -/
theorem no_panic_current_code (cfg : Cfg) (hcfg : cfg.lenFirst = codeLenFirst)
    (s : State) (es : List Ev) : ∃ r, run cfg s es = .ok r :=
  no_panic cfg (Or.inr (by rw [hcfg]; rfl)) s es

/-- … and none in any build as long as no transaction is empty. -/
theorem no_panic_without_empty_tx (cfg : Cfg) (es : List Ev)
    (hne : ∀ t, Ev.tx t ∈ es → t ≠ []) : ∃ r, run cfg init es = .ok r := by
  apply run_no_panic
  have : (accepted es).any (fun tx => tx.isEmpty) = false := by
    rw [List.any_eq_false]
    intro t ht
    simpa using hne t ((mem_accepted es t).mp ht)
  simp [scanPanics, init, this]

/-- Defect F2, as a fact about the model: in the benchmark build with the filter as it was written
before the repair (`tx[0] == 0 && tx.len() > 8`, `lenFirst := false`), one empty transaction
followed by the timer (or by enough bytes to reach `batch_size`) panics the task; the later
transaction is never sealed. -/
theorem benchmark_empty_tx_panics :
    run { batchSize := 10, benchmark := true, lenFirst := false } init [.tx [], .timer, .tx [1, 2, 3]]
      = .error .sealSampleScanIndex ∧
    run { batchSize := 2, benchmark := true, lenFirst := false } init [.tx [], .tx [7, 7]]
      = .error .sealSampleScanIndex := by
  -- `+kernel` (here and in the examples below): runs of the model on literals, evaluated by the kernel
  -- alone (the elaborator's own evaluation is slow)
  decide +kernel

/-- The bincode layout of `MempoolMessage::Batch` is uniquely decodable: decoding the serialized
batch gives the batch back (all lengths fit a `u64`, as `usize` guarantees). -/
theorem decode_encode (batch : List (List Nat)) (hn : batch.length < 2 ^ 64)
    (ht : ∀ t ∈ batch, t.length < 2 ^ 64) : decodeBatch (encodeBatch batch) = some batch := by
  rw [decodeBatch, ← List.append_nil (encodeBatch batch), decodeBatchPrefix_encodeBatch batch [] hn ht]

/-- Hence the serialization is injective … -/
theorem encode_injective (a b : List (List Nat)) (ha : a.length < 2 ^ 64) (hb : b.length < 2 ^ 64)
    (hat : ∀ t ∈ a, t.length < 2 ^ 64) (hbt : ∀ t ∈ b, t.length < 2 ^ 64)
    (h : encodeBatch a = encodeBatch b) : a = b := by
  have h1 := decode_encode a ha hat
  have h2 := decode_encode b hb hbt
  rw [h] at h1
  rw [h1] at h2
  exact Option.some.inj h2

/-- … and the store key of an own batch, `H(serialized)`, identifies the batch (content
addressing, under the hash assumption: `digestOf` is injective by construction). -/
theorem own_batch_key_identifies_batch (a b : List (List Nat))
    (ha : a.length < 2 ^ 64) (hb : b.length < 2 ^ 64)
    (hat : ∀ t ∈ a, t.length < 2 ^ 64) (hbt : ∀ t ∈ b, t.length < 2 ^ 64)
    (h : (processor (encodeBatch a)).1 = (processor (encodeBatch b)).1) : a = b := by
  apply encode_injective a b ha hb hat hbt
  simp only [processor, digestOf] at h
  exact Digest.mk.inj h

/-- The processor stores a batch under, and announces, the hash of the exact bytes it is given. -/
theorem processor_key_is_hash_of_exact_bytes (bytes : List Nat) :
    (processor bytes).1 = digestOf bytes ∧ (processor bytes).2.1 = bytes ∧ (processor bytes).2.2 = digestOf bytes :=
  ⟨rfl, rfl, rfl⟩

/-- A received batch frame reaches the processor as the exact received bytes (no
re-serialisation), so it is stored under the hash of the exact received bytes — also when the
frame carries trailing bytes after a well-formed batch, which `bincode::deserialize` accepts. -/
theorem received_batch_stored_under_hash_of_received_bytes (frame fwd : List Nat)
    (h : receiverHandler frame = some fwd) :
    fwd = frame ∧ (processor fwd).1 = digestOf frame ∧ (processor fwd).2.1 = frame := by
  unfold receiverHandler at h
  split at h
  · cases h; exact ⟨rfl, rfl, rfl⟩
  · cases h

/-- Every own sealed batch is accepted by the receiving side's handler and stored there under
the same key as at the sender. -/
theorem own_batch_same_key_at_receiver (batch : List (List Nat)) (hn : batch.length < 2 ^ 64)
    (ht : ∀ t ∈ batch, t.length < 2 ^ 64) :
    receiverHandler (encodeBatch batch) = some (encodeBatch batch) := by
  rw [receiverHandler, ← List.append_nil (encodeBatch batch), decodeBatchPrefix_encodeBatch batch [] hn ht,
    List.append_nil]

/-- Non-vacuity: batch size 5, sizes 0, 2, 3 (threshold hit exactly), 9 (over), 1, then the timer,
an idle timer and a last transaction; with the encoding of the first sealed batch. -/
example :
    run { batchSize := 5 } init
        [.tx [], .tx [1, 2], .tx [3, 4, 5], .tx [9, 9, 9, 9, 9, 9, 9, 9, 9], .tx [7], .timer, .timer, .tx [8]]
      = .ok ({ cur := [[8]], size := 1 },
             [[[], [1, 2], [3, 4, 5]], [[9, 9, 9, 9, 9, 9, 9, 9, 9]], [[7]]]) ∧
    encodeBatch [[], [1, 2]] =
      [0, 0, 0, 0, 2, 0, 0, 0, 0, 0, 0, 0, 0, 0, 0, 0, 0, 0, 0, 0, 2, 0, 0, 0, 0, 0, 0, 0, 1, 2] ∧
    decodeBatch (encodeBatch [[], [1, 2]]) = some [[], [1, 2]] := by
  decide +kernel

end HS.C11

/-!
## mempool peer side

Model: `HS.MS` (`Model/MempoolSync.lean`): the receiver dispatch of `mempool.rs`, the `Processor`
that serves the batches received from other mempools, the `Helper` and the `Synchronizer`, on one
shared store.  `reach cfg es` is the state after the event list `es` from the initial state, `outs
cfg es` everything emitted on the way.  `cfg.hash` stands for SHA-512/256 and is arbitrary; byte
strings and digests are identifiers.  Every theorem is for EVERY finite event list (frames of the
three kinds, consensus commands, timer expiries, waiter completions, writes to the shared store by
other tasks, in any order).
-/
namespace HS.C11
open HS.MS

/-- A batch frame received in any reachable state: it is ACKed, stored under the hash of exactly
the received bytes, and that digest — one, and no other — is handed to consensus; nothing else
changes; the bytes are readable under that key right away. -/
theorem peer_frame_stored_under_hash_of_its_bytes (cfg : Cfg) (es : List Event) (b : Nat) :
    step cfg (reach cfg es) (.batchFrame b) =
      ({ reach cfg es with store := (cfg.hash b, b) :: (reach cfg es).store },
       [.ack, .stored (cfg.hash b) b, .digestToConsensus (cfg.hash b)]) ∧
    lookup (step cfg (reach cfg es) (.batchFrame b)).1.store (cfg.hash b) = some b :=
  ⟨rfl, lookup_step_batchFrame ..⟩

/-- Over a whole run: the digests handed to consensus are exactly the hashes of the received batch
frames, in arrival order (none missing, none invented, none twice unless the frame came twice), and
the store writes of the processor are exactly `(hash bytes, bytes)` for those frames, in order. -/
theorem peer_frames_announced_in_arrival_order (cfg : Cfg) (es : List Event) :
    announced (outs cfg es) = (frames es).map cfg.hash ∧
    storedOuts (outs cfg es) = (frames es).map (fun b => (cfg.hash b, b)) :=
  (run_receipts cfg init es).2

/-- The store after any run: reading key `d` returns the value of the LAST write to `d` (by a
received batch frame, under the hash of its bytes, or by another task of the node), and nothing if
there was none.  Nothing else in the model touches the store. -/
theorem peer_store_is_last_write (cfg : Cfg) (es : List Event) (d : Nat) :
    lookup (reach cfg es).store d = lastWrite cfg d es :=
  lookup_reach cfg es d

/-- Every batch frame ever received stays readable under the hash of its bytes; the value read is
exactly those bytes unless a different byte string with the same hash (a collision) arrived, or
another task overwrote that key. -/
theorem peer_frame_readable_afterwards (cfg : Cfg) (es : List Event) (b : Nat)
    (h : Event.batchFrame b ∈ es) :
    (lookup (reach cfg es).store (cfg.hash b)).isSome ∧
    ((∀ b', Event.batchFrame b' ∈ es → cfg.hash b' = cfg.hash b → b' = b) →
      (∀ v, Event.extWrite (cfg.hash b) v ∈ es → v = b) →
      lookup (reach cfg es).store (cfg.hash b) = some b) := by
  rw [lookup_eq]
  have hm : (cfg.hash b, b) ∈ (reach cfg es).store := (mem_store_reach ..).mpr ⟨_, h, rfl⟩
  have hs := List.lookup_isSome_iff.mpr ⟨_, hm, beq_self_eq_true _⟩
  refine ⟨hs, fun hinj hext => ?_⟩
  obtain ⟨v, hv⟩ := Option.isSome_iff_exists.mp hs
  -- the value read was written by some event of the run, and every such write wrote `b`
  obtain ⟨e, he, hw⟩ := (mem_store_reach cfg es (cfg.hash b, v)).mp (mem_of_lookup hv)
  rw [hv]
  cases e with
  | batchFrame b' =>
    simp only [writeOf, Option.some.injEq, Prod.mk.injEq] at hw
    rw [← hw.2, hinj b' he hw.1]
  | extWrite d' v' =>
    simp only [writeOf, Option.some.injEq, Prod.mk.injEq] at hw
    obtain ⟨rfl, rfl⟩ := hw
    rw [hext _ he]
  | _ => simp [writeOf] at hw

/-- A frame that does not decode changes nothing — store, pending requests, round — and is ACKed
like any other frame; the connection task goes on (the next event is processed normally: the model
has no "dead" state). -/
theorem peer_garbage_frame_only_acked (cfg : Cfg) (es : List Event) :
    step cfg (reach cfg es) .garbage = (reach cfg es, [.ack]) := rfl

/-- Every frame that arrives on the mempool port is ACKed exactly once, whatever it contains; no
other event produces an ACK. -/
theorem peer_every_frame_acked_once (cfg : Cfg) (es : List Event) :
    acks (outs cfg es) = (es.filter isFrame).length :=
  (run_receipts cfg init es).1

/-- Non-vacuity: two batch frames (ids 7 and 8, the second one twice), a garbage frame in
between, a write by another task; hash = +100. -/
example :
    let cfg : Cfg := { name := 1, members := [1, 2, 3, 4], gcDepth := 2, retryDelay := 5, retryNodes := 2,
                       hash := fun b => b + 100 }
    let es : List Event := [.batchFrame 7, .garbage, .batchFrame 8, .extWrite 55 9, .batchFrame 8]
    outs cfg es = [.ack, .stored 107 7, .digestToConsensus 107, .ack,
                   .ack, .stored 108 8, .digestToConsensus 108,
                   .ack, .stored 108 8, .digestToConsensus 108] ∧
    lookup (reach cfg es).store 107 = some 7 ∧ lookup (reach cfg es).store 55 = some 9 ∧
    lookup (reach cfg es).store 109 = none ∧ acks (outs cfg es) = 4 := by
  decide +kernel

end HS.C11
