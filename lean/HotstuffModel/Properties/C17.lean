import HotstuffModel.Proofs.Committee
/-!
# C17 — Quorum arithmetic: any two quorums overlap in more than f stake

All statements are about `Gen.qtConsensus` / `Gen.qtMempool` / `Gen.unknownStake*`, which are
*generated from the current Rust source* on every run (tools/translate.py), and about the
committee model built on them.
-/
namespace HS.C17
open HS Q

/-- f = floor((n-1)/3). -/
def f (n : Nat) : Nat := (n - 1) / 3

/-- q > 2n/3 and q ≤ n − f, for every total stake in the arithmetic's range. -/
theorem threshold_bounds (n : Nat) (h1 : 1 ≤ n) (_h2 : n < 2 ^ 31) :
    3 * Gen.qtConsensus n > 2 * n ∧ Gen.qtConsensus n ≤ n - f n := by
  unfold Gen.qtConsensus f; omega

/-- Consensus and mempool compute the same threshold for the same stakes. -/
theorem threshold_same (n : Nat) : Gen.qtConsensus n = Gen.qtMempool n := by
  unfold Gen.qtConsensus Gen.qtMempool; omega

/-- Same for the mempool's copy. -/
theorem threshold_bounds_mempool (n : Nat) (h1 : 1 ≤ n) (_h2 : n < 2 ^ 31) :
    3 * Gen.qtMempool n > 2 * n ∧ Gen.qtMempool n ≤ n - f n :=
  threshold_same n ▸ threshold_bounds n h1 _h2

/-- On the range n < 2^31 the `u32` evaluation (what the machine computes) does not overflow:
it equals the mathematical value. -/
theorem threshold_no_overflow (n : Nat) (h2 : n < 2 ^ 31) :
    (Gen.qtConsensusU32 (UInt32.ofNat n)).toNat = Gen.qtConsensus n ∧
    (Gen.qtMempoolU32 (UInt32.ofNat n)).toNat = Gen.qtMempool n := by
  unfold Gen.qtConsensusU32 Gen.qtConsensus Gen.qtMempoolU32 Gen.qtMempool
  simp only [UInt32.toNat_add, UInt32.toNat_div, UInt32.toNat_mul, UInt32.toNat_ofNat,
    UInt32.toNat_ofNat', Nat.reducePow, Nat.reduceMod]
  -- no intermediate value reaches 2^32, so every reduction modulo 2^32 is the identity
  simp (disch := omega) only [Nat.mod_eq_of_lt, and_self]

/-- An unknown authority has zero stake (both crates). -/
theorem unknown_stake_zero (c : Committee) (k : Nat) (h : k ∉ c.keys) :
    c.stake k = 0 ∧ c.stakeMempool k = 0 := by
  rw [Committee.stake_unknown c k h, Committee.stakeMempool_unknown c k h]
  exact ⟨rfl, rfl⟩

/-- A signer list whose members all have positive stake consists of committee members. -/
theorem signers_are_members (c : Committee) (l : List Nat) (h : ∀ x ∈ l, 0 < c.stake x) :
    ∀ x ∈ l, x ∈ c.keys :=
  fun x hx => stake_ne_zero_mem c x (Nat.ne_of_gt (h x hx))

theorem quorum_bounds (c : Committee) (hn1 : 1 ≤ c.total) (hn2 : c.total < 2 ^ 31) :
    3 * c.quorum > 2 * c.total ∧ c.quorum ≤ c.total - f c.total :=
  threshold_bounds c.total hn1 hn2

/-- Any two quorums share strictly more than f stake — for every committee (distinct keys,
arbitrary stakes including zero-stake members). -/
theorem quorums_overlap_gt_f (c : Committee) (hc : c.WF) (a b : List Nat)
    (hn1 : 1 ≤ c.total) (hn2 : c.total < 2 ^ 31)
    (ha : a.Nodup) (hb : b.Nodup) (han : ∀ x ∈ a, x ∈ c.keys) (hbn : ∀ x ∈ b, x ∈ c.keys)
    (hqa : c.quorum ≤ c.weight a) (hqb : c.quorum ≤ c.weight b) :
    f c.total < c.weight (a.filter (fun x => decide (x ∈ b))) := by
  have h := weight_inter c.stake c.keys a b ha hb han hbn
  rw [Committee.weight_keys c hc] at h
  have := quorum_bounds c hn1 hn2
  rw [Committee.weight_eq] at hqa hqb ⊢
  omega

/-- … hence at least one honest authority, whenever the Byzantine stake is at most f. -/
theorem quorums_share_honest (c : Committee) (hc : c.WF) (a b : List Nat) (bad : Nat → Bool)
    (hn1 : 1 ≤ c.total) (hn2 : c.total < 2 ^ 31)
    (ha : a.Nodup) (hb : b.Nodup) (han : ∀ x ∈ a, x ∈ c.keys) (hbn : ∀ x ∈ b, x ∈ c.keys)
    (hqa : c.quorum ≤ c.weight a) (hqb : c.quorum ≤ c.weight b)
    (hbad : c.weight (c.keys.filter bad) ≤ f c.total) :
    ∃ x, x ∈ a ∧ x ∈ b ∧ bad x = false := by
  have := quorum_bounds c hn1 hn2
  refine quorum_intersection c.stake c.keys a b bad c.quorum (f c.total)
    (ha := ha) (hb := hb) (han := han) (hbn := hbn) (hn := hc) (hqa := hqa) (hqb := hqb)
    (hbad := hbad) (hq := ?_)
  rw [Committee.weight_keys c hc]
  omega  -- total + f < 2 * quorum

/-- The honest authorities alone can always form a quorum. -/
theorem honest_form_quorum (c : Committee) (hc : c.WF) (bad : Nat → Bool)
    (hn1 : 1 ≤ c.total) (hn2 : c.total < 2 ^ 31)
    (hbad : c.weight (c.keys.filter bad) ≤ f c.total) :
    c.quorum ≤ c.weight (c.keys.filter (fun x => !bad x)) := by
  have hs := weight_filter_split c.stake bad c.keys
  rw [Committee.weight_keys c hc] at hs
  have := quorum_bounds c hn1 hn2
  rw [Committee.weight_eq] at hbad ⊢
  omega

/-- Non-vacuity: a concrete skewed committee with a zero-stake member meets the hypotheses. -/
example : let c : Committee := ⟨[(1, 5), (2, 1), (3, 0), (4, 1)]⟩
    c.WF ∧ 1 ≤ c.total ∧ c.total < 2 ^ 31 ∧ c.quorum = 5 ∧ c.quorum ≤ c.weight [1] := by
  decide

end HS.C17
