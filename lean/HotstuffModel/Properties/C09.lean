import HotstuffModel.Proofs.Reachable
import HotstuffModel.Proofs.Leader
/-!
# C09 — One agreed leader per round; only its blocks are voted; it never equivocates

`Committee.leader` = sort the keys, index by `Gen.leaderIndex round n`, where the index expression
is translated from consensus/src/leader.rs on every run.  Keys are numbered by their rank in
byte-lexicographic order (an order isomorphism: the `leader` engine compares the real
`get_leader` on random 32-byte keys in several insertion orders with this model).
-/
namespace HS.C09
open HS Node

/-- All nodes derive the same proposer from the committee alone: it depends only on the set of keys,
not on the order in which the committee map was filled. -/
theorem same_leader_for_every_insertion_order (c1 c2 : Committee) (h : c1.keys.Perm c2.keys) (r : Nat) :
    c1.leader r = c2.leader r := by
  rw [leader_eq, leader_eq, sortKeys_eq_of_perm h, h.length_eq]

/-- `get_leader` never panics on a non-empty committee and returns a member. -/
theorem leader_is_a_member (c : Committee) (h : c.keys ≠ []) (r : Nat) :
    (c.leader? r).isSome = true ∧ c.leader r ∈ c.keys := by
  obtain ⟨k, hk, _⟩ := leader?_some c h r
  exact ⟨by rw [hk]; rfl, leader_mem c h r⟩

/-- Leadership rotates with period `n` … -/
theorem leadership_rotates (c : Committee) (r : Nat) : c.leader (r + c.keys.length) = c.leader r :=
  leader_periodic c r

/-- … and in every window of `n` consecutive rounds every authority leads exactly once. -/
theorem every_authority_leads_once_per_n_rounds (c : Committee) (hw : c.WF) (h : c.keys ≠ [])
    (r0 k : Nat) (hk : k ∈ c.keys) :
    ∃ i, i < c.keys.length ∧ c.leader (r0 + i) = k ∧
      ∀ j, j < c.keys.length → c.leader (r0 + j) = k → j = i := by
  obtain ⟨i, hi, hik⟩ := exists_leader c r0 k hk
  refine ⟨i, hi, hik, fun j hj hjk => ?_⟩
  -- both rounds lie in the window `[r0, r0 + n)`, on which `leader` is injective (`InjOnWindows`)
  exact Nat.add_left_cancel (leaders_distinct c hw h r0 (x := r0 + j) (y := r0 + i) (Nat.le_add_right ..)
    (Nat.add_lt_add_left hj r0) (Nat.le_add_right ..) (Nat.add_lt_add_left hi r0) (hjk.trans hik.symm))

/-- Honest nodes vote only for blocks authored and signed by the round's leader — for every
input sequence, on every path (direct, sync-resumed, payload-resumed, own proposals). -/
theorem votes_only_for_leader_blocks (c : Committee) (name : Nat) (hd : Deploy c name)
    (es : List Event) (b : Block) (hb : Out.voted b ∈ (run c (init c name) es).hist) :
    b.author = c.leader b.round ∧ b.sig.signer = b.author ∧ b.sig.content = .block b.digest := by
  have := (reachable_inv3 c name hd es).voted b hb
  exact ⟨this.leader, Sig.valid_iff.mp this.signed⟩

/-- An honest authority never signs two different proposals for the same round: the rounds of its
successive proposals strictly increase. -/
theorem proposals_have_increasing_rounds (c : Committee) (name : Nat) (es : List Event)
    (h1 h2 : List Out) (b : Block)
    (hh : (run c (init c name) es).hist = h1 ++ .propose b :: h2) :
    ∀ b', Out.propose b' ∈ h2 → b'.round < b.round := by
  exact (hh ▸ (reachable_inv12 c name es).2.ords).split (o := .propose b)

theorem never_two_proposals_for_one_round (c : Committee) (name : Nat) (es : List Event)
    (h1 h2 : List Out) (b b' : Block)
    (hh : (run c (init c name) es).hist = h1 ++ .propose b :: h2) (hb' : Out.propose b' ∈ h2) :
    b'.round ≠ b.round := by
  have := proposals_have_increasing_rounds c name es h1 h2 b hh b' hb'; omega

/-- It proposes only in rounds it leads, under its own name and signature, with verified
certificates, and only once per `Make` request (`Make` rounds strictly increase too). -/
theorem proposals_are_by_the_leader (c : Committee) (name : Nat) (hd : Deploy c name)
    (es : List Event) (b : Block) (hb : Out.propose b ∈ (run c (init c name) es).hist) :
    b.author = (run c (init c name) es).name ∧ b.author = c.leader b.round ∧
    b.sig.valid (.block b.digest) b.author = true ∧
    Out.make b.round b.qc b.tc ∈ (run c (init c name) es).hist := by
  obtain ⟨checked, ownName⟩ := (reachable_inv3 c name hd es).proposed b hb
  exact ⟨ownName, checked.leader, checked.signed, (reachable_inv12 c name es).2.propMade b hb⟩

theorem make_rounds_increase (c : Committee) (name : Nat) (es : List Event)
    (h1 h2 : List Out) (r : Nat) (q : QC) (t : Option TC)
    (hh : (run c (init c name) es).hist = h1 ++ .make r q t :: h2) :
    ∀ r' q' t', Out.make r' q' t' ∈ h2 → r' < r := by
  exact (hh ▸ (reachable_inv12 c name es).2.ords).split (o := .make r q t)

/-- Non-vacuity: committee {1,2,3,4}: rounds 0..7 are led by 1,2,3,4,1,2,3,4; built in another order
the leaders are the same. -/
example :
    let c1 : Committee := ⟨[(1, 1), (2, 1), (3, 1), (4, 1)]⟩
    let c2 : Committee := ⟨[(3, 1), (1, 1), (4, 1), (2, 1)]⟩
    (List.range 8).map c1.leader = [1, 2, 3, 4, 1, 2, 3, 4] ∧
    (List.range 8).map c2.leader = [1, 2, 3, 4, 1, 2, 3, 4] := by
  decide

end HS.C09
