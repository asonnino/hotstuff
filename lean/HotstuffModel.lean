import HotstuffModel.Generated.Quorum
import HotstuffModel.Proofs.Weight
import HotstuffModel.Model.Committee
import HotstuffModel.Proofs.Committee
import HotstuffModel.Model.Types
import HotstuffModel.Model.Verify
import HotstuffModel.Model.Leader
import HotstuffModel.Model.Aggregator
import HotstuffModel.Model.Node
import HotstuffModel.Model.Bytes
import HotstuffModel.Model.Base64
import HotstuffModel.Model.Json
import HotstuffModel.Model.Bincode
import HotstuffModel.Model.Preimage
import HotstuffModel.Model.Store
import HotstuffModel.Model.QuorumWaiter
import HotstuffModel.Model.Synchronizer
import HotstuffModel.Model.Timer
import HotstuffModel.Model.ProposerWait
import HotstuffModel.Model.ReliableSender
import HotstuffModel.Model.BatchMaker
import HotstuffModel.Model.MempoolSync
import HotstuffModel.Proofs.Bytes
import HotstuffModel.Proofs.Base64
import HotstuffModel.Proofs.Bincode
import HotstuffModel.Proofs.BincodeWF
import HotstuffModel.Proofs.Preimage
import HotstuffModel.Proofs.Store
import HotstuffModel.Proofs.QuorumWaiter
import HotstuffModel.Proofs.Synchronizer
import HotstuffModel.Proofs.PacemakerStuck
import HotstuffModel.Proofs.ProposerWait
import HotstuffModel.Proofs.ReliableSender
import HotstuffModel.Proofs.ReliableSenderOrder
import HotstuffModel.Proofs.BatchMaker
import HotstuffModel.Proofs.MempoolSync
import HotstuffModel.Proofs.Lists
import HotstuffModel.Proofs.AggregatorOK
import HotstuffModel.Proofs.NodeMoves
import HotstuffModel.Proofs.NodeExt
import HotstuffModel.Proofs.NodeInv1
import HotstuffModel.Proofs.NodeInv2
import HotstuffModel.Proofs.Verify
import HotstuffModel.Proofs.NodeInv3
import HotstuffModel.Proofs.NodeInv4
import HotstuffModel.Proofs.NodeInv5
import HotstuffModel.Proofs.Leader
import HotstuffModel.Proofs.LeaderWindow
import HotstuffModel.Proofs.Reachable
import HotstuffModel.Proofs.Agreement
import HotstuffModel.Proofs.NodeInv6
import HotstuffModel.Proofs.Global
import HotstuffModel.Proofs.Bridge
import HotstuffModel.Proofs.CommitSeq
import HotstuffModel.Proofs.GlobalCommit
import HotstuffModel.Proofs.CommitLive
import HotstuffModel.Proofs.WireVotes
import HotstuffModel.Properties.C01
import HotstuffModel.Properties.C02
import HotstuffModel.Properties.C03
import HotstuffModel.Properties.C04
import HotstuffModel.Properties.C05
import HotstuffModel.Properties.C06
import HotstuffModel.Properties.C07
import HotstuffModel.Properties.C08
import HotstuffModel.Properties.C09
import HotstuffModel.Properties.C10
import HotstuffModel.Properties.C11
import HotstuffModel.Properties.C12
import HotstuffModel.Properties.C13
import HotstuffModel.Properties.C14
import HotstuffModel.Properties.C15
import HotstuffModel.Properties.C15_decode
import HotstuffModel.Properties.C16
import HotstuffModel.Properties.C17
import HotstuffModel.Properties.C18
import HotstuffModel.Properties.C19
import HotstuffModel.Properties.C20
import HotstuffModel.Driver.Main
